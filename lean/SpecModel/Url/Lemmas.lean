/-
Lemmas for the URL / normaliser model group. Core only. Three namespaces:

* `Path`: Go's `path.Clean` is a stack machine, `cleanL cs = render r (run r [] (splitOn cs))` with `run` a fold of `step`.
  Everything about `cleanL` comes from how `run` reads an element list: what follows a slash matters only through `run`
  (`cleanL_congr`), a cleaned path replays to the stack it was rendered from (`run_cleanL_rel`, `run_cleanL`); hence
  `cleanL_idem`, the absorption laws `cleanL_append_cleanL` / `cleanL_cleanL_append`, and the spelling rewrites of C11.
* `Url`: `cleanPath`, `absPath`, `normalizeBase` by cases (C11); `normalizeURL`, i.e. lower-casing, `collapse`, default
  ports (C13); `normalizeURI` on a reference without scheme and host, and the path arithmetic of `rebase`,
  `rebased_path` (C03).
* `Rfc`: §5.2.4 `remove_dot_segments` runs the same stack machine (`rdsStep_slashed`, `rdsLoop_slashed`), from which Go
  and the RFC agree on the path of a resolved reference (`go_rfc_path_rel`, `go_rfc_path_abs`: C12).
-/
import SpecModel.Url.Normalizer
import SpecModel.Url.Rfc3986

namespace SpecModel.Url.Path

/-! ### `splitOn` / `joinSegs` -/

theorem splitOn_nil : splitOn [] = [[]] := rfl

theorem splitOn_cons_slash (cs : List Char) : splitOn ('/' :: cs) = [] :: splitOn cs := by
  simp [splitOn, splitAux]

theorem splitOn_cons_ne {c : Char} (h : c ≠ '/') {cs : List Char} {s : Seg} {rest : List Seg}
    (hs : splitOn cs = s :: rest) : splitOn (c :: cs) = (c :: s) :: rest := by
  simp only [splitOn, List.cons.injEq] at hs
  simp [splitOn, splitAux, h, hs]

theorem splitOn_ne_nil (cs : List Char) : splitOn cs ≠ [] := by simp [splitOn]

theorem splitOn_append_slash (a b : List Char) : splitOn (a ++ '/' :: b) = splitOn a ++ splitOn b := by
  fun_induction splitAux a with
  | case1 => simp [splitOn_cons_slash, splitOn_nil]
  | case2 cs _ ih => simp [splitOn_cons_slash, ih]
  | case3 c cs _ h ih =>
    obtain ⟨s, rest, hs⟩ : ∃ s rest, splitOn cs = s :: rest := ⟨_, _, rfl⟩
    rw [hs] at ih
    rw [List.cons_append, splitOn_cons_ne h ih, splitOn_cons_ne h hs]; rfl

theorem splitOn_noSlash {s : List Char} (h : '/' ∉ s) : splitOn s = [s] := by
  induction s with
  | nil => rfl
  | cons c cs ih =>
    rw [List.mem_cons, not_or] at h
    exact splitOn_cons_ne (Ne.symm h.1) (ih h.2)

theorem mem_splitOn_noSlash (cs : List Char) : ∀ s ∈ splitOn cs, '/' ∉ s := by
  fun_induction splitAux cs with
  | case1 => simp [splitOn_nil]
  | case2 cs _ ih => simpa [splitOn_cons_slash] using ih
  | case3 c cs _ h ih =>
    obtain ⟨s, rest, hs⟩ : ∃ s rest, splitOn cs = s :: rest := ⟨_, _, rfl⟩
    rw [hs] at ih
    rw [splitOn_cons_ne h hs]
    simpa [Ne.symm h] using ih

theorem joinSegs_cons_of_ne_nil (s : Seg) {rest : List Seg} (h : rest ≠ []) :
    joinSegs (s :: rest) = s ++ '/' :: joinSegs rest := by
  cases rest with
  | nil => exact absurd rfl h
  | cons t r => rfl

theorem splitOn_joinSegs {segs : List Seg} (hne : segs ≠ []) (h : ∀ s ∈ segs, '/' ∉ s) :
    splitOn (joinSegs segs) = segs := by
  fun_induction joinSegs segs with
  | case1 => exact absurd rfl hne
  | case2 s => exact splitOn_noSlash (h s List.mem_cons_self)
  | case3 s rest hr ih =>
    rw [List.forall_mem_cons] at h
    rw [splitOn_append_slash, splitOn_noSlash h.1, ih hr h.2]; rfl

theorem joinSegs_splitOn (cs : List Char) : joinSegs (splitOn cs) = cs := by
  fun_induction splitAux cs with
  | case1 => rfl
  | case2 cs _ ih => rw [splitOn_cons_slash, joinSegs_cons_of_ne_nil _ (splitOn_ne_nil cs), ih]; rfl
  | case3 c cs _ h ih =>
    obtain ⟨s, rest, hs⟩ : ∃ s rest, splitOn cs = s :: rest := ⟨_, _, rfl⟩
    rw [splitOn_cons_ne h hs, ← ih, hs]
    cases rest <;> rfl

theorem joinSegs_append_cons (xs : List Seg) (hne : xs ≠ []) (ys : List Seg) (hy : ys ≠ []) :
    joinSegs (xs ++ ys) = joinSegs xs ++ '/' :: joinSegs ys := by
  fun_induction joinSegs xs with
  | case1 => exact absurd rfl hne
  | case2 s => exact joinSegs_cons_of_ne_nil s hy
  | case3 s rest hr ih => rw [List.cons_append, joinSegs_cons_of_ne_nil s (by simp [hy]), ih hr]; simp

/-! ### `isAbsL` -/

theorem isAbsL_eq_head (cs : List Char) : isAbsL cs = (cs.head? == some '/') := by
  cases cs with
  | nil => rfl
  | cons c t =>
    by_cases h : c = '/'
    · subst h; rfl
    · simp [isAbsL, h]

theorem isAbsL_iff (cs : List Char) : isAbsL cs = true ↔ ∃ t, cs = '/' :: t := by
  cases cs <;> simp [isAbsL_eq_head]

theorem head?_eq_slash_iff (l : List Char) : l.head? = some '/' ↔ isAbsL l = true := by
  simp [isAbsL_eq_head]

theorem nil_mem_splitOn {cs : List Char} (h : isAbsL cs = true) : [] ∈ splitOn cs := by
  obtain ⟨t, rfl⟩ := (isAbsL_iff cs).mp h
  rw [splitOn_cons_slash]
  exact List.mem_cons_self

theorem isAbsL_append_slash (a b : List Char) : isAbsL (a ++ '/' :: b) = isAbsL (a ++ ['/']) := by
  cases a <;> simp [isAbsL_eq_head]

theorem isAbsL_append_of_ne_nil {a : List Char} (h : a ≠ []) (b : List Char) : isAbsL (a ++ b) = isAbsL a := by
  cases a with
  | nil => exact absurd rfl h
  | cons c t => simp [isAbsL_eq_head]

/-! ### the stack machine of `Clean` -/

def Real (s : Seg) : Prop := s ≠ [] ∧ s ≠ dot
def Plain (s : Seg) : Prop := s ≠ [] ∧ s ≠ dot ∧ s ≠ dotdot

theorem Plain.real {s : Seg} (h : Plain s) : Real s := ⟨h.1, h.2.1⟩

abbrev run (r : Bool) (st : List Seg) (segs : List Seg) : List Seg := segs.foldl (step r) st

theorem cleanL_eq (cs : List Char) : cleanL cs = render (isAbsL cs) (run (isAbsL cs) [] (splitOn cs)) := rfl

theorem run_append (r : Bool) (S : List Seg) (xs ys : List Seg) : run r S (xs ++ ys) = run r (run r S xs) ys :=
  List.foldl_append

theorem dotdot_real : Real dotdot := ⟨by decide, by decide⟩

/-- What `step` does with an element: it skips it, pops for it, or pushes it. -/
theorem seg_cases (s : Seg) : ¬ Real s ∨ s = dotdot ∨ Plain s := by
  by_cases h : Real s
  · by_cases h3 : s = dotdot
    · exact .inr (.inl h3)
    · exact .inr (.inr ⟨h.1, h.2, h3⟩)
  · exact .inl h

@[simp] theorem step_nil (r : Bool) (st : List Seg) : step r st [] = st := if_pos (.inl rfl)
@[simp] theorem step_dot (r : Bool) (st : List Seg) : step r st dot = st := if_pos (.inr rfl)

theorem step_of_not_real {s : Seg} (h : ¬ Real s) (r : Bool) (st : List Seg) : step r st s = st :=
  if_pos (Decidable.or_iff_not_imp_left.mpr fun h1 => Decidable.byContradiction fun h2 => h ⟨h1, h2⟩)

theorem step_plain {s : Seg} (h : Plain s) (r : Bool) (st : List Seg) : step r st s = s :: st := by
  simp [step, h.1, h.2.1, h.2.2]

theorem step_dotdot_nil (r : Bool) : step r [] dotdot = if r then [] else [dotdot] := by
  simp [step, dotdot_real.1, dotdot_real.2]

theorem step_dotdot_cons (r : Bool) (t : Seg) (rest : List Seg) :
    step r (t :: rest) dotdot = if t = dotdot then dotdot :: t :: rest else rest := by
  simp [step, dotdot_real.1, dotdot_real.2]

/-- What is on the stack after a step was there before or is the element read, if plain. The only other thing a step
pushes is `..`, on an empty relative stack or on top of another `..`: a rooted stack that holds none never gets one. -/
theorem step_all {P : Seg → Prop} {r : Bool} {st : List Seg} {s : Seg} (hst : ∀ x ∈ st, P x) (hs : Plain s → P s)
    (hdd : r = false → P dotdot) : ∀ x ∈ step r st s, P x := by
  rcases seg_cases s with h | rfl | h
  · rwa [step_of_not_real h]
  · cases st with
    | nil => rw [step_dotdot_nil]; cases r <;> simp [hdd]
    | cons t rest =>
      rw [step_dotdot_cons]
      split
      · next ht => exact List.forall_mem_cons.mpr ⟨ht ▸ hst t List.mem_cons_self, hst⟩
      · exact fun x hx => hst x (List.mem_cons_of_mem _ hx)
  · rw [step_plain h]; exact List.forall_mem_cons.mpr ⟨hs h, hst⟩

theorem run_all {P : Seg → Prop} {r : Bool} {segs : List Seg} (hdd : r = false → P dotdot) : ∀ {st : List Seg},
    (∀ x ∈ st, P x) → (∀ s ∈ segs, Plain s → P s) → ∀ x ∈ run r st segs, P x := by
  induction segs with
  | nil => intro st hst _; exact hst
  | cons s rest ih =>
    intro st hst hs
    exact ih (step_all hst (hs s List.mem_cons_self) hdd) fun t ht => hs t (List.mem_cons_of_mem _ ht)

theorem run_plain {ps : List Seg} (r : Bool) : ∀ (S : List Seg), (∀ s ∈ ps, Plain s) → run r S ps = ps.reverse ++ S := by
  induction ps with
  | nil => intro S _; rfl
  | cons p rest ih =>
    intro S h
    rw [List.forall_mem_cons] at h
    show run r (step r S p) rest = _
    rw [step_plain h.1, ih _ h.2]; simp

theorem run_ne_nil {segs : List Seg} (hne : segs ≠ []) (hlast : ∀ l, segs.getLast? = some l → Plain l)
    (r : Bool) (S : List Seg) : run r S segs ≠ [] := by
  cases h : segs.getLast? with
  | none => exact absurd (List.getLast?_eq_none_iff.mp h) hne
  | some l =>
    obtain ⟨init, rfl⟩ := List.getLast?_eq_some_iff.mp h
    rw [run_append]
    show step r _ l ≠ []
    rw [step_plain (hlast l h)]
    exact List.cons_ne_nil _ _

/-- Pushing `y` on a relative stack `T` and replaying the result is replaying `T` and then reading `y`:
whatever `y` pops from `T` it pops from the replayed stack as well. -/
theorem run_step_rel (r : Bool) (S T : List Seg) (y : Seg) (hT : ∀ x ∈ T, Real x) :
    run r S (step false T y).reverse = step r (run r S T.reverse) y := by
  rcases seg_cases y with h | rfl | h
  · rw [step_of_not_real h, step_of_not_real h]
  · cases T with
    | nil => rw [step_dotdot_nil]; rfl
    | cons t rest =>
      rw [step_dotdot_cons]
      split
      · simp
      · next ht =>
        have ht : Plain t := ⟨(hT t (by simp)).1, (hT t (by simp)).2, ht⟩
        simp [step_plain ht, step_dotdot_cons, ht.2.2]
  · simp [step_plain h]

/-- Feeding the cleaned form of a relative element list instead of the list itself makes no difference,
from any stack and in either mode. -/
theorem run_run_rel (r : Bool) (S : List Seg) (ys : List Seg) : ∀ (T : List Seg), (∀ x ∈ T, Real x) →
    run r S (run false T ys).reverse = run r (run r S T.reverse) ys := by
  induction ys with
  | nil => intro T _; rfl
  | cons y rest ih =>
    intro T hT
    show run r S (run false (step false T y) rest).reverse = run r (step r (run r S T.reverse) y) rest
    rw [ih _ (step_all hT Plain.real fun _ => dotdot_real), run_step_rel r S T y hT]

/-! ### `cleanL`: idempotence, absorption, spelling rewrites -/

/-- What the stack of `cleanL` holds: real elements without a slash. -/
def Good (st : List Seg) : Prop := ∀ x ∈ st, Real x ∧ '/' ∉ x

theorem stack_good (r : Bool) (cs : List Char) : Good (run r [] (splitOn cs)) :=
  run_all (fun _ => ⟨dotdot_real, by decide⟩) (fun _ h => nomatch h) fun s hs hp =>
    ⟨hp.real, mem_splitOn_noSlash cs s hs⟩

/-- A rooted stack holds no `..` either. -/
theorem stack_plain (cs : List Char) : ∀ x ∈ run true [] (splitOn cs), Plain x ∧ '/' ∉ x :=
  run_all nofun (fun _ h => nomatch h) fun s hs hp => ⟨hp, mem_splitOn_noSlash cs s hs⟩

theorem splitOn_render {T : List Seg} (hg : Good T) (hT : T ≠ []) (b : Bool) :
    splitOn (render b T) = (if b then [[]] else []) ++ T.reverse := by
  have h := splitOn_joinSegs (by simpa using hT : T.reverse ≠ []) fun x hx => (hg x (List.mem_reverse.mp hx)).2
  cases b
  · simp [render, hT, h]
  · simp [render, splitOn_cons_slash, h]

/-- Reading a rendered stack back replays the stack. -/
theorem run_splitOn_render {T : List Seg} (hg : Good T) (b r : Bool) (S : List Seg) :
    run r S (splitOn (render b T)) = run r S T.reverse := by
  by_cases hT : T = []
  · subst hT
    cases b
    · exact step_dot r S
    · rfl
  · rw [splitOn_render hg hT]
    cases b
    · rfl
    · exact congrArg (run r · T.reverse) (step_nil r S)

theorem isAbsL_render_true (T : List Seg) : isAbsL (render true T) = true := rfl

theorem isAbsL_render_false {T : List Seg} (hg : Good T) : isAbsL (render false T) = false := by
  by_cases hT : T = []
  · subst hT; rfl
  · refine Bool.eq_false_iff.mpr fun h => ?_
    have hm := nil_mem_splitOn h
    rw [splitOn_render hg hT] at hm
    exact (hg [] (by simpa using hm)).1.1 rfl

theorem isAbsL_cleanL (cs : List Char) : isAbsL (cleanL cs) = isAbsL cs := by
  rw [cleanL_eq]
  cases isAbsL cs
  · exact isAbsL_render_false (stack_good false cs)
  · rfl

theorem run_cleanL_rel {x : List Char} (h : isAbsL x = false) (r : Bool) (S : List Seg) :
    run r S (splitOn (cleanL x)) = run r S (splitOn x) := by
  rw [cleanL_eq, h, run_splitOn_render (stack_good false x)]
  exact run_run_rel r S _ [] (fun _ h => nomatch h)

theorem run_cleanL (x : List Char) :
    run (isAbsL x) [] (splitOn (cleanL x)) = run (isAbsL x) [] (splitOn x) := by
  cases h : isAbsL x
  · exact run_cleanL_rel h false []
  · rw [cleanL_eq, h, run_splitOn_render (stack_good true x),
      run_plain true [] fun s hs => (stack_plain x s (List.mem_reverse.mp hs)).1]
    simp

theorem cleanL_idem (x : List Char) : cleanL (cleanL x) = cleanL x := by
  rw [cleanL_eq (cleanL x), isAbsL_cleanL, run_cleanL]
  rfl

/-- The empty path is not a fixed point. -/
theorem cleanL_ne_nil (x : List Char) : cleanL x ≠ [] := fun e => by
  have h := cleanL_idem x
  rw [e] at h
  cases h

/-- At a slash the machine has read `a` and goes on to read `b`. -/
theorem cleanL_append_slash (a b : List Char) :
    cleanL (a ++ '/' :: b) =
      render (isAbsL (a ++ ['/'])) (run (isAbsL (a ++ ['/'])) (run (isAbsL (a ++ ['/'])) [] (splitOn a)) (splitOn b)) := by
  rw [cleanL_eq, isAbsL_append_slash, splitOn_append_slash, run_append]

/-- What follows a slash matters only through its effect on the stack. -/
theorem cleanL_congr (a : List Char) {b b' : List Char}
    (h : ∀ r S, run r S (splitOn b) = run r S (splitOn b')) : cleanL (a ++ '/' :: b) = cleanL (a ++ '/' :: b') := by
  rw [cleanL_append_slash, cleanL_append_slash, h]

theorem cleanL_append_cleanL (a : List Char) {r : List Char} (h : isAbsL r = false) :
    cleanL (a ++ '/' :: cleanL r) = cleanL (a ++ '/' :: r) :=
  cleanL_congr a (run_cleanL_rel h)

theorem cleanL_cleanL_append {a : List Char} (ha : a ≠ []) (r : List Char) :
    cleanL (cleanL a ++ '/' :: r) = cleanL (a ++ '/' :: r) := by
  rw [cleanL_append_slash, cleanL_append_slash a, isAbsL_append_of_ne_nil (cleanL_ne_nil a), isAbsL_cleanL,
    isAbsL_append_of_ne_nil ha, run_cleanL]

theorem splitOn_dot : splitOn ['.'] = [dot] := splitOn_noSlash (by simp)
theorem splitOn_dotdot : splitOn ['.', '.'] = [dotdot] := splitOn_noSlash (by simp)

theorem cleanL_insert_dot (a b : List Char) : cleanL (a ++ '/' :: '.' :: '/' :: b) = cleanL (a ++ '/' :: b) :=
  cleanL_congr a fun r S => by
    rw [show '.' :: '/' :: b = ['.'] ++ '/' :: b from rfl, splitOn_append_slash, splitOn_dot]
    exact congrArg (run r · (splitOn b)) (step_dot r S)

theorem cleanL_double_slash (a b : List Char) : cleanL (a ++ '/' :: '/' :: b) = cleanL (a ++ '/' :: b) :=
  cleanL_congr a fun r S => by
    rw [splitOn_cons_slash]
    exact congrArg (run r · (splitOn b)) (step_nil r S)

theorem cleanL_insert_updown (a b : List Char) {x : Seg} (hx : Plain x) (hs : '/' ∉ x) :
    cleanL (a ++ '/' :: (x ++ '/' :: '.' :: '.' :: '/' :: b)) = cleanL (a ++ '/' :: b) :=
  cleanL_congr a fun r S => by
    rw [show '.' :: '.' :: '/' :: b = ['.', '.'] ++ '/' :: b from rfl, splitOn_append_slash, splitOn_append_slash,
      splitOn_noSlash hs, splitOn_dotdot]
    show run r (step r (step r S x) dotdot) (splitOn b) = _
    rw [step_plain hx, step_dotdot_cons, if_neg hx.2.2]

theorem cleanL_trailing_dot (a : List Char) : cleanL (a ++ ['/', '.']) = cleanL (a ++ ['/']) :=
  cleanL_congr a fun r S => step_dot r S

theorem cleanL_trailing_slash {a : List Char} (h : a ≠ []) : cleanL (a ++ ['/']) = cleanL a := by
  rw [cleanL_append_slash, isAbsL_append_of_ne_nil h]
  rfl

theorem cleanL_leading_dot {b : List Char} (h : isAbsL b = false) : cleanL ('.' :: '/' :: b) = cleanL b := by
  rw [show '.' :: '/' :: b = ['.'] ++ '/' :: b from rfl, cleanL_append_slash, splitOn_dot, cleanL_eq b, h]
  rfl

/-! ### `String` level -/

@[simp] theorem toList_clean (p : String) : (clean p).toList = cleanL p.toList := by simp [clean]
@[simp] theorem toList_join (a b : String) : (join a b).toList = joinL a.toList b.toList := by simp [join]
@[simp] theorem toList_dir (p : String) : (dir p).toList = dirL p.toList := by simp [dir]

theorem clean_eq_iff (p q : String) : clean p = q ↔ cleanL p.toList = q.toList := by
  rw [← String.toList_inj, toList_clean]

theorem clean_congr {p q : String} (h : cleanL p.toList = cleanL q.toList) : clean p = clean q :=
  congrArg String.ofList h

theorem clean_idem (p : String) : clean (clean p) = clean p := by
  apply String.ext; simp [cleanL_idem]

theorem isAbs_clean (p : String) : isAbs (clean p) = isAbs p := by
  simp [isAbs, isAbsL_cleanL]

theorem toList_ne_nil {p : String} (h : p ≠ "") : p.toList ≠ [] :=
  fun e => h (String.toList_eq_nil_iff.mp e)

theorem clean_ne_empty (p : String) : clean p ≠ "" :=
  fun h => cleanL_ne_nil p.toList (by simpa using congrArg String.toList h)

theorem clean_empty : clean "" = "." := by decide
theorem isAbs_empty : isAbs "" = false := by decide

theorem ne_dot_of_isAbs {p : String} (h : isAbs p = true) : p ≠ "." := by
  rintro rfl; exact absurd h (by decide)

theorem ne_empty_of_isAbs {p : String} (h : isAbs p = true) : p ≠ "" := by
  rintro rfl; exact absurd h (by decide)

theorem joinL_of_ne_nil {a : List Char} (h : a ≠ []) (b : List Char) : joinL a b = cleanL (a ++ '/' :: b) := by
  simp [joinL, h]

theorem isAbs_join {a : String} (h : isAbs a = true) (b : String) : isAbs (join a b) = true := by
  have hne := toList_ne_nil (ne_empty_of_isAbs h)
  unfold isAbs at h ⊢
  rw [toList_join, joinL_of_ne_nil hne, isAbsL_cleanL, isAbsL_append_of_ne_nil hne, h]

theorem clean_join {a : String} (h : a ≠ "") (b : String) : clean (join a b) = join a b := by
  apply String.ext; simp [joinL_of_ne_nil (toList_ne_nil h), cleanL_idem]

/-- The working directory is an absolute, cleaned path. -/
structure CwdOk (cwd : String) : Prop where
  abs : isAbs cwd = true
  clean : clean cwd = cwd

instance (cwd : String) : Decidable (CwdOk cwd) :=
  decidable_of_iff (isAbs cwd = true ∧ clean cwd = cwd) ⟨fun ⟨h1, h2⟩ => ⟨h1, h2⟩, fun ⟨h1, h2⟩ => ⟨h1, h2⟩⟩

end SpecModel.Url.Path

namespace SpecModel.Url
open Path

/-! ### `cleanPath`, `absPath` -/

theorem clean_eq_dot_iff (p : String) : clean p = "." ↔ cleanL p.toList = ['.'] := clean_eq_iff p "."

theorem cleanPath_of_dot {p : String} (h : clean p = ".") : cleanPath p = "" := by simp [cleanPath, h]

theorem cleanPath_of_ne_dot {p : String} (h : clean p ≠ ".") : cleanPath p = clean p := by simp [cleanPath, h]

theorem cleanPath_empty : cleanPath "" = "" := cleanPath_of_dot clean_empty

theorem cleanPath_cases (p : String) : cleanPath p = "" ∨ (cleanPath p = clean p ∧ clean p ≠ ".") :=
  if h : clean p = "." then .inl (cleanPath_of_dot h) else .inr ⟨cleanPath_of_ne_dot h, h⟩

theorem isAbs_cleanPath (p : String) : isAbs (cleanPath p) = isAbs p := by
  rw [← isAbs_clean p]
  by_cases hd : clean p = "."
  · rw [cleanPath_of_dot hd, hd]; rfl
  · rw [cleanPath_of_ne_dot hd]

theorem cleanPath_of_fixed {p : String} (h : clean p = p) (hd : p ≠ ".") : cleanPath p = p := by
  rw [cleanPath_of_ne_dot (by rwa [h]), h]

theorem cleanPath_fixed (p : String) : cleanPath p = "" ∨ clean (cleanPath p) = cleanPath p :=
  (cleanPath_cases p).imp_right fun h => by rw [h.1, clean_idem]

theorem cleanPath_idem (p : String) : cleanPath (cleanPath p) = cleanPath p := by
  rcases cleanPath_cases p with h | ⟨h, hd⟩
  · rw [h, cleanPath_empty]
  · rw [h]; exact cleanPath_of_fixed (clean_idem p) hd

theorem absPath_abs {cwd : String} (hc : CwdOk cwd) (p : String) : isAbs (absPath cwd p) = true := by
  unfold absPath
  split
  · next h => rw [isAbs_clean]; exact h
  · exact isAbs_join hc.abs p

theorem absPath_clean {cwd : String} (hc : CwdOk cwd) (p : String) : clean (absPath cwd p) = absPath cwd p := by
  unfold absPath
  split
  · exact clean_idem p
  · exact clean_join (ne_empty_of_isAbs hc.abs) p

theorem cleanPath_absPath {cwd : String} (hc : CwdOk cwd) (p : String) : cleanPath (absPath cwd p) = absPath cwd p :=
  cleanPath_of_fixed (absPath_clean hc p) (ne_dot_of_isAbs (absPath_abs hc p))

theorem absPath_of_abs_fixed {cwd p : String} (ha : isAbs p = true) (hf : clean p = p) : absPath cwd p = p := by
  simp [absPath, ha, hf]

/-- `Join(a, p)` does not see the cleaning of a relative `p`, nor that `.` has become the empty path. -/
theorem join_cleanPath {a : String} (ha : a ≠ "") {p : String} (hp : isAbs p = false) :
    join a (cleanPath p) = join a p := by
  have hne := toList_ne_nil ha
  apply String.ext
  rw [toList_join, toList_join, joinL_of_ne_nil hne, joinL_of_ne_nil hne, ← cleanL_append_cleanL _ hp]
  by_cases hd : clean p = "."
  · rw [cleanPath_of_dot hd, (clean_eq_dot_iff p).mp hd]; exact (cleanL_trailing_dot _).symm
  · rw [cleanPath_of_ne_dot hd, toList_clean]

/-! ### `normalizeBase` by cases -/

theorem normalizeBase_remote (cwd : String) {u : URL} (h1 : u.scheme ≠ "") (h2 : u.scheme ≠ "file") :
    normalizeBase cwd u = { u with path := cleanPath u.path, fragment := "" } := by
  simp [normalizeBase, h1, h2, fileScheme]

/-- One formula for absolute and relative paths alike: `absPath` leaves an absolute cleaned path as it is. -/
theorem normalizeBase_local (cwd : String) {u : URL} (h : u.scheme = "" ∨ u.scheme = "file") :
    normalizeBase cwd u = ⟨"file", u.host, absPath cwd (cleanPath u.path), "", ""⟩ := by
  rcases h with h | h
  · simp [normalizeBase, h, fileScheme]
  · by_cases ha : isAbs u.path = true
    · have hc : clean (cleanPath u.path) = cleanPath u.path :=
        (cleanPath_fixed _).resolve_left (ne_empty_of_isAbs (by rwa [isAbs_cleanPath]))
      simp [normalizeBase, h, fileScheme, isAbs_cleanPath, ha, absPath, hc]
    · simp [normalizeBase, h, fileScheme, isAbs_cleanPath, ha]

/-! ### NormalizeURL -/

theorem toLower_val (c : Char) :
    c.toLower.val.toNat = if 65 ≤ c.val.toNat ∧ c.val.toNat ≤ 90 then c.val.toNat + 32 else c.val.toNat := by
  have e : (c.val ≥ 'A'.val ∧ c.val ≤ 'Z'.val) ↔ (65 ≤ c.val.toNat ∧ c.val.toNat ≤ 90) := by
    simp only [ge_iff_le, UInt32.le_iff_toNat_le]; rfl
  unfold Char.toLower
  split
  · next h =>
    have h' := e.mp h
    rw [if_pos h']
    show (c.val + ('a'.val - 'A'.val)).toNat = _
    rw [UInt32.toNat_add, show ('a'.val - 'A'.val).toNat = 32 from rfl]
    omega
  · next h => rw [if_neg (mt e.mpr h)]

theorem char_eq_iff (c d : Char) : c = d ↔ c.val.toNat = d.val.toNat := Char.toNat_inj.symm

theorem toLower_idem (c : Char) : c.toLower.toLower = c.toLower := by
  have : ¬ (65 ≤ c.toLower.val.toNat ∧ c.toLower.val.toNat ≤ 90) := by
    rw [toLower_val]; split <;> omega
  rw [char_eq_iff, toLower_val c.toLower, if_neg this]

theorem toLower_eq_colon (c : Char) : (c.toLower == ':') = (c == ':') := by
  rw [Bool.eq_iff_iff]
  simp only [beq_iff_eq, char_eq_iff, toLower_val, show (':' : Char).val.toNat = 58 from rfl]
  split <;> omega

theorem lowerL_idem (cs : List Char) : lowerL (lowerL cs) = lowerL cs := by
  simp [lowerL, toLower_idem]

theorem lowerL_take (n : Nat) (cs : List Char) : lowerL (cs.take n) = (lowerL cs).take n := by
  simp [lowerL, List.map_take]

theorem lower_idem (s : String) : lower (lower s) = lower s := by
  simp [lower, lowerL_idem]

theorem lowerL_nil : lowerL [] = [] := rfl

theorem lower_empty : lower "" = "" := by decide

theorem lower_eq_empty_iff (s : String) : lower s = "" ↔ s = "" := by
  constructor
  · intro h; simpa [lower, lowerL] using congrArg String.toList h
  · rintro rfl; exact lower_empty

theorem count_colon_lowerL (cs : List Char) : (lowerL cs).count ':' = cs.count ':' := by
  simp [lowerL, List.count_eq_countP, List.countP_map, Function.comp_def, toLower_eq_colon]

theorem collapseL_cons (c : Char) (t : List Char) :
    collapseL (c :: t) = if c = '/' ∧ t.head? = some '/' then collapseL t else c :: collapseL t := rfl

theorem head?_collapseL (cs : List Char) : (collapseL cs).head? = cs.head? := by
  fun_induction collapseL cs with
  | case1 => rfl
  | case2 c t h ih => rw [ih, h.2, h.1]; rfl
  | case3 => rfl

theorem collapseL_idem (cs : List Char) : collapseL (collapseL cs) = collapseL cs := by
  fun_induction collapseL cs with
  | case1 => rfl
  | case2 c t h ih => exact ih
  | case3 c t h ih => rw [collapseL_cons, head?_collapseL, if_neg h, ih]

theorem collapse_idem (s : String) : collapse (collapse s) = collapse s := by
  simp [collapse, collapseL_idem]

theorem isAbs_collapse (s : String) : isAbs (collapse s) = isAbs s := by
  simp [isAbs, collapse, isAbsL_eq_head, head?_collapseL]

theorem collapseL_length_le (l : List Char) : (collapseL l).length ≤ l.length := by
  fun_induction collapseL l with
  | case1 => exact Nat.le_refl _
  | case2 c t h ih => exact Nat.le_succ_of_le ih
  | case3 c t h ih => exact Nat.succ_le_succ ih

/-- In a fixed point of `collapseL` nothing is dropped at the head (the result would be too short). -/
theorem collapseL_fixed_cons {c : Char} {t : List Char} (h : collapseL (c :: t) = c :: t) :
    ¬ (c = '/' ∧ t.head? = some '/') ∧ collapseL t = t := by
  rw [collapseL_cons] at h
  split at h
  · have := collapseL_length_le t
    rw [h] at this
    exact absurd this (Nat.not_succ_le_self _)
  · next hn => exact ⟨hn, (List.cons.inj h).2⟩

theorem collapseL_double_ne (a b : List Char) : collapseL (a ++ '/' :: '/' :: b) ≠ a ++ '/' :: '/' :: b := by
  induction a with
  | nil => exact fun h => (collapseL_fixed_cons h).1 ⟨rfl, rfl⟩
  | cons c t ih => exact fun h => ih (collapseL_fixed_cons h).2

theorem collapseL_fixed_suffix (a b : List Char) (h : collapseL (a ++ b) = a ++ b) : collapseL b = b := by
  induction a with
  | nil => exact h
  | cons c t ih => exact ih (collapseL_fixed_cons h).2

/-- A default port stacked on itself: the only obstacle to idempotence of `NormalizeURL`. -/
def StackedPort (scheme : String) (host : List Char) : Prop :=
  (scheme = "http" ∧ (httpPort ++ httpPort) <:+ host) ∨ (scheme = "https" ∧ (httpsPort ++ httpsPort) <:+ host)

theorem suffix_of_suffix_take {p h : List Char} (hs : p <:+ h) (h2 : p <:+ h.take (h.length - p.length)) :
    (p ++ p) <:+ h := by
  obtain ⟨q, hq⟩ := h2
  exact ⟨q, by rw [← List.append_assoc, hq, List.suffix_iff_eq_append.mp hs]⟩

theorem removePortL_idem {scheme : String} {host : List Char} (h : ¬ StackedPort scheme host) :
    removePortL scheme (removePortL scheme host) = removePortL scheme host := by
  by_cases h1 : scheme = "http" ∧ httpPort <:+ host
  · have h2 : ¬ httpPort <:+ host.take (host.length - 3) := fun h2 =>
      h (.inl ⟨h1.1, suffix_of_suffix_take h1.2 h2⟩)
    simp [removePortL, h1, h2]
  · by_cases h3 : scheme = "https" ∧ httpsPort <:+ host
    · have h2 : ¬ httpsPort <:+ host.take (host.length - 4) := fun h2 =>
        h (.inr ⟨h3.1, suffix_of_suffix_take h3.2 h2⟩)
      simp [removePortL, h3, h2]
    · simp [removePortL, h1, h3]

theorem lowerL_removePortL (scheme : String) (host : List Char) :
    lowerL (removePortL scheme (lowerL host)) = removePortL scheme (lowerL host) := by
  unfold removePortL
  split
  · rw [lowerL_take, lowerL_idem]
  · split
    · rw [lowerL_take, lowerL_idem]
    · exact lowerL_idem host

/-- `NormalizeURL` is idempotent unless the default port is stacked on itself (`http://h:80:80`). -/
theorem normalizeURL_idem_of {u : URL} (h : ¬ StackedPort (lower u.scheme) (lowerL u.host.toList)) :
    normalizeURL (normalizeURL u) = normalizeURL u := by
  unfold normalizeURL
  simp only [lower_idem, collapse_idem, String.toList_ofList, lowerL_removePortL, removePortL_idem h]

/-- "The host has at most one port": at most one `:` in the host rules the stacked default port out. -/
theorem not_stacked_of_one_colon {scheme : String} {host : String} (h : host.toList.count ':' ≤ 1) :
    ¬ StackedPort scheme (lowerL host.toList) := by
  rw [← count_colon_lowerL] at h
  rintro (⟨_, q, hq⟩ | ⟨_, q, hq⟩) <;> rw [← hq, List.count_append] at h
  · have : (httpPort ++ httpPort).count ':' = 2 := by decide
    omega
  · have : (httpsPort ++ httpsPort).count ':' = 2 := by decide
    omega

/-! ### references without scheme and host -/

theorem normalizeURL_relative (p f : String) (h : collapse p = p) :
    normalizeURL ⟨"", "", p, "", f⟩ = ⟨"", "", p, "", f⟩ := by
  simp [normalizeURL, lower_empty, h, removePortL, lowerL_nil]

theorem not_canonical_of_no_scheme (p q f : String) : (Ref.new ⟨"", "", p, q, f⟩).isCanonical = false := by
  simp [Ref.new, Ref.classify, normalizeURL, Ref.isCanonical, lower_empty]

theorem normalizeURI_relative (p q f : String) (base : URL) :
    normalizeURI ⟨"", "", p, q, f⟩ base =
      { base with
        path := if isAbs p then cleanPath p
                else if cleanPath p ≠ "" then join (dir base.path) (cleanPath p) else base.path
        fragment := f } := by
  simp [normalizeURI, not_canonical_of_no_scheme, isAbs_cleanPath]

/-! ### `rebase`: the path of a target, cut at the directory of the base document -/

theorem isAbsL_dirPart {b : List Char} (h : isAbsL b = true) : isAbsL (dirPart b) = true := by
  obtain ⟨t, rfl⟩ := (isAbsL_iff b).mp h
  rw [dirPart, List.reverse_cons, List.dropWhile_append]
  split <;> simp [isAbsL]

theorem isAbsL_dirL {b : List Char} (h : isAbsL b = true) : isAbsL (dirL b) = true := by
  rw [dirL, isAbsL_cleanL]; exact isAbsL_dirPart h

/-- `v.Path` after the adjustment in `rebase`, on character lists, for a directory `d ≠ "."`. -/
def vPathL (d : List Char) : List Char := if ['/'].isSuffixOf d then d else d ++ ['/']

theorem vPathL_ends (d : List Char) : ∃ q, vPathL d = q ++ ['/'] := by
  unfold vPathL
  split
  · next h => obtain ⟨q, hq⟩ := List.isSuffixOf_iff_suffix.mp h; exact ⟨q, hq.symm⟩
  · exact ⟨d, rfl⟩

theorem vPathL_length (d : List Char) : d.length ≤ (vPathL d).length := by
  unfold vPathL; split <;> simp

theorem cleanL_vPathL_append (d rest : List Char) : cleanL (vPathL d ++ rest) = cleanL (d ++ '/' :: rest) := by
  unfold vPathL
  split
  · next h =>
    obtain ⟨q, rfl⟩ := List.isSuffixOf_iff_suffix.mp h
    rw [List.append_assoc, List.append_assoc]
    exact (cleanL_double_slash q rest).symm
  · simp

theorem cleanL_vPathL {d : List Char} (hne : d ≠ []) (hc : cleanL d = d) : cleanL (vPathL d) = d := by
  unfold vPathL
  split
  · exact hc
  · rw [cleanL_trailing_slash hne, hc]

/-- A cleaned path that ends with a slash is the root: the last element of a rendered stack is real. -/
theorem clean_fixed_trailing_slash {q : List Char} (hc : cleanL (q ++ ['/']) = q ++ ['/']) : q = [] := by
  have hl : (splitOn (cleanL (q ++ ['/']))).getLast? = some [] := by
    rw [hc, splitOn_append_slash, splitOn_nil]; exact List.getLast?_concat
  have hg := stack_good (isAbsL (q ++ ['/'])) (q ++ ['/'])
  rw [cleanL_eq] at hc hl
  generalize run (isAbsL (q ++ ['/'])) [] (splitOn (q ++ ['/'])) = T at hc hl hg
  generalize isAbsL (q ++ ['/']) = r at hc hl
  cases T with
  | nil => cases r <;> cases q <;> simp_all [render, joinSegs]
  | cons l T' =>
    rw [splitOn_render hg (by simp), List.getLast?_append, List.reverse_cons, List.getLast?_concat] at hl
    exact absurd (Option.some.inj hl) (hg l List.mem_cons_self).1.1

theorem toList_slash : ("/" : String).toList = ['/'] := by decide

theorem rebaseDir_toList {doc : String} (h : isAbs doc = true) : (rebaseDir doc).toList = vPathL (dirL doc.toList) := by
  have habs : isAbs (dir doc) = true := by
    unfold isAbs; rw [toList_dir]; exact isAbsL_dirL h
  unfold rebaseDir vPathL hasSuffix
  simp only [ne_dot_of_isAbs habs, if_false, toList_slash, toList_dir]
  split <;> simp [toList_slash]

theorem hasPrefix_iff (s pre : String) : hasPrefix s pre = true ↔ ∃ r, s = pre ++ r := by
  rw [hasPrefix, List.isPrefixOf_iff_prefix]
  constructor
  · rintro ⟨t, ht⟩; exact ⟨String.ofList t, String.toList_inj.mp (by simp [ht])⟩
  · rintro ⟨r, rfl⟩; exact ⟨r.toList, by simp⟩

theorem trimPrefix_append (pre r : String) : trimPrefix (pre ++ r) pre = r := by
  simp [trimPrefix, hasPrefix]

theorem trimPrefix_not {s pre : String} (h : hasPrefix s pre = false) : trimPrefix s pre = s := by
  simp [trimPrefix, h]

theorem rebasePath_self (p : String) : rebasePath p p = "" := by
  have hm : matchesDoc p p = true := by simp [matchesDoc, hasPrefix]
  rw [rebasePath, if_pos hm]
  simpa using trimPrefix_append p ""

theorem rebasePath_eq_trim {p doc : String} (h : matchesDoc p doc = true → doc = "/") :
    rebasePath p doc = trimPrefix p (rebaseDir doc) := by
  unfold rebasePath
  split
  · next hm => rw [h hm, show rebaseDir "/" = "/" by decide]
  · rfl

/-- `rebase` cuts the directory of the base document, with its slash, off a cleaned target path `P`. What is left is a
relative reference in normal form, and joined to that directory again, as `normalizeURI` does, it gives `P` back. -/
theorem rebased_path {bp P r : String} (hb : isAbs bp = true) (hP : clean P = P) (hcol : collapse P = P)
    (hroot : P ≠ "/") (hsplit : P = rebaseDir bp ++ r) :
    isAbs r = false ∧ collapse r = r ∧ cleanPath r ≠ "" ∧ join (dir bp) (cleanPath r) = P := by
  have hd : cleanL (dirL bp.toList) = dirL bp.toList := cleanL_idem _
  have hdne : dirL bp.toList ≠ [] := cleanL_ne_nil _
  have hl : P.toList = vPathL (dirL bp.toList) ++ r.toList := by
    rw [hsplit, String.toList_append, rebaseDir_toList hb]
  generalize hdd : dirL bp.toList = d at hd hdne hl
  have hPc := (clean_eq_iff P P).mp hP
  have hPcol : collapseL P.toList = P.toList := by simpa [collapse] using congrArg String.toList hcol
  obtain ⟨q, hq⟩ := vPathL_ends d
  -- `r` is relative: there is no `//` in `P`
  have h1 : isAbsL r.toList = false := by
    refine Bool.eq_false_iff.mpr fun hr => ?_
    obtain ⟨t, ht⟩ := (isAbsL_iff _).mp hr
    rw [hl, hq, ht, List.append_assoc] at hPcol
    exact collapseL_double_ne q t hPcol
  have h3 : cleanL (d ++ '/' :: r.toList) = P.toList := by
    rw [← cleanL_vPathL_append, ← hl, hPc]
  -- Were `Clean r = "."` (as it is for the empty `r`), `P` would be `d`, no longer than `d` with its slash: so `r` would
  -- be empty and `P` a cleaned path that ends with a slash.
  have h2 : clean r ≠ "." := by
    intro e
    have hPd : P.toList = d := by
      rw [← h3, ← cleanL_append_cleanL d h1, (clean_eq_dot_iff r).mp e]
      exact (cleanL_trailing_dot d).trans ((cleanL_trailing_slash hdne).trans hd)
    have hlen := congrArg List.length hl
    rw [hPd, List.length_append] at hlen
    have hr : r.toList = [] := List.eq_nil_of_length_eq_zero (by have := vPathL_length d; omega)
    rw [hr, hq, List.append_nil] at hl
    obtain rfl := clean_fixed_trailing_slash (hl ▸ hPc)
    exact hroot (String.toList_inj.mp hl)
  have hcp : cleanPath r = clean r := cleanPath_of_ne_dot h2
  refine ⟨h1, ?_, hcp ▸ clean_ne_empty r, ?_⟩
  · apply String.ext
    simpa [collapse] using collapseL_fixed_suffix (vPathL d) _ (hl ▸ hPcol)
  · rw [hcp]
    apply String.ext
    rw [toList_join, toList_dir, toList_clean, hdd, joinL_of_ne_nil hdne, cleanL_append_cleanL d h1, h3]

end SpecModel.Url

namespace SpecModel.Url.Rfc
open SpecModel.Url.Path

/-! ### RFC 3986 `remove_dot_segments` on `/s1/s2/…/sn` -/

/-- `/s1/s2/…/sn`. -/
def slashed : List Seg → List Char
  | [] => []
  | s :: rest => '/' :: s ++ slashed rest

theorem slashed_append (xs ys : List Seg) : slashed (xs ++ ys) = slashed xs ++ slashed ys := by
  induction xs with
  | nil => rfl
  | cons s rest ih => simp [slashed, ih]

theorem slashed_reverse_cons (s : Seg) (S : List Seg) :
    slashed (s :: S).reverse = slashed S.reverse ++ '/' :: s := by
  simp [slashed_append, slashed]

theorem slashed_eq_joinSegs {xs : List Seg} (h : xs ≠ []) : slashed xs = '/' :: joinSegs xs := by
  fun_induction joinSegs xs with
  | case1 => exact absurd rfl h
  | case2 s => simp [slashed]
  | case3 s rest hr ih => rw [slashed, ih hr]; simp

theorem slashed_splitOn (r : List Char) : slashed (splitOn r) = '/' :: r := by
  rw [slashed_eq_joinSegs (splitOn_ne_nil r), joinSegs_splitOn]

theorem rdsLoop_nil (out : List Char) : rdsLoop [] out = out := by
  rw [rdsLoop]; simp

theorem rdsLoop_step {inp out inp' out' : List Char} (hne : inp ≠ []) (h : rdsStep inp out = (inp', out')) :
    rdsLoop inp out = rdsLoop inp' out' := by
  rw [rdsLoop, dif_neg hne, h]

/-- what may follow a segment: nothing, or a slash -/
def Boundary (rest : List Char) : Prop := rest = [] ∨ ∃ m, rest = '/' :: m

theorem boundary_head {rest : List Char} (hr : Boundary rest) (c : Char) (t : List Char) (h : rest = c :: t) : c = '/' := by
  rcases hr with rfl | ⟨m, rfl⟩
  · cases h
  · cases h; rfl

theorem boundary_slashed (xs : List Seg) : Boundary (slashed xs) := by
  cases xs with
  | nil => exact .inl rfl
  | cons s r => exact .inr ⟨_, rfl⟩

theorem span_seg {s : List Char} (h : '/' ∉ s) {rest : List Char} (hr : Boundary rest) :
    (s ++ rest).takeWhile (· ≠ '/') = s ∧ (s ++ rest).dropWhile (· ≠ '/') = rest := by
  have hs : ∀ a ∈ s, decide (a ≠ '/') = true := fun a ha => decide_eq_true fun e => h (e ▸ ha)
  rw [List.takeWhile_append_of_pos hs, List.dropWhile_append_of_pos hs]
  rcases hr with rfl | ⟨m, rfl⟩ <;> simp

theorem dirPart_append (a : List Char) {s : List Char} (h : '/' ∉ s) : dirPart (a ++ '/' :: s) = a ++ ['/'] := by
  unfold dirPart
  rw [show (a ++ '/' :: s).reverse = s.reverse ++ '/' :: a.reverse by simp,
    (span_seg (by simpa using h) (.inr ⟨_, rfl⟩)).2]
  simp

theorem removeLastSegment_nil : removeLastSegment [] = [] := rfl

theorem removeLastSegment_snoc (xs : List Char) {t : Seg} (h : '/' ∉ t) :
    removeLastSegment (xs ++ '/' :: t) = xs := by
  unfold removeLastSegment
  rw [show (xs ++ '/' :: t).reverse = t.reverse ++ '/' :: xs.reverse by simp,
    (span_seg (by simpa using h) (.inr ⟨_, rfl⟩)).2]
  simp

theorem rdsStep_dot_more (m out : List Char) : rdsStep ('/' :: '.' :: '/' :: m) out = ('/' :: m, out) := by
  simp [rdsStep, strip]

theorem rdsStep_dotdot_more (m out : List Char) :
    rdsStep ('/' :: '.' :: '.' :: '/' :: m) out = ('/' :: m, removeLastSegment out) := by
  simp [rdsStep, strip]

/-- Step E on a plain segment: the tests of steps A to D would make the segment after the slash `.` or `..`. -/
theorem rdsStep_plain {s : Seg} (hp : Plain s) (hs : '/' ∉ s) {rest : List Char} (hr : Boundary rest) (out : List Char) :
    rdsStep ('/' :: (s ++ rest)) out = (rest, out ++ '/' :: s) := by
  have key : ∀ {d rest'}, '/' ∉ d → Boundary rest' → '/' :: (s ++ rest) = '/' :: (d ++ rest') → s = d := by
    intro d rest' hd hr' e
    rw [← (span_seg hs hr).1, List.cons.inj e |>.2, (span_seg hd hr').1]
  unfold rdsStep
  split
  · next h => cases strip_eq_some h
  split
  · next h => cases strip_eq_some h
  split
  · next r h => exact absurd (key (d := dot) (by decide) (.inr ⟨r, rfl⟩) (strip_eq_some h)) hp.2.1
  split
  · next h => exact absurd (key (d := dot) (rest' := []) (by decide) (.inl rfl) h) hp.2.1
  split
  · next r h => exact absurd (key (d := dotdot) (by decide) (.inr ⟨r, rfl⟩) (strip_eq_some h)) hp.2.2
  split
  · next h => exact absurd (key (d := dotdot) (rest' := []) (by decide) (.inl rfl) h) hp.2.2
  split
  · next h => rcases h with h | h <;> cases h
  · simp only [span_seg hs hr]

/-- What `rdsLoop_slashed` reads: `.` and `..` are allowed, empty segments are not. -/
def SegsOk (segs : List Seg) : Prop := ∀ s ∈ segs, s ≠ [] ∧ '/' ∉ s

/-- One pass of the RFC loop on `/s/…` against one step of rooted `Clean` on `s`: the input loses its first
segment, and the output buffer remains the text of the stack. A `.` or `..` must not be the last segment: the RFC
keeps the slash before it. -/
theorem rdsStep_slashed {s : Seg} {rest S : List Seg} (hs : s ≠ [] ∧ '/' ∉ s) (hS : ∀ t ∈ S, Plain t ∧ '/' ∉ t)
    (hlast : rest = [] → Plain s) :
    rdsStep (slashed (s :: rest)) (slashed S.reverse) = (slashed rest, slashed (step true S s).reverse) := by
  rcases seg_cases s with hn | rfl | hp
  · obtain rfl : s = dot := Decidable.byContradiction fun h => hn ⟨hs.1, h⟩
    obtain ⟨t, r, rfl⟩ := List.exists_cons_of_ne_nil fun h => (hlast h).2.1 rfl
    rw [step_dot]
    exact rdsStep_dot_more _ _
  · obtain ⟨t, r, rfl⟩ := List.exists_cons_of_ne_nil fun h => (hlast h).2.2 rfl
    refine (rdsStep_dotdot_more _ _).trans (congrArg (Prod.mk _) ?_)
    cases S with
    | nil => rfl
    | cons u S' =>
      have hu := hS u List.mem_cons_self
      rw [slashed_reverse_cons, removeLastSegment_snoc _ hu.2, step_dotdot_cons, if_neg hu.1.2.2]
  · rw [step_plain hp, slashed_reverse_cons]
    exact rdsStep_plain hp hs.2 (boundary_slashed rest) _

/-- The heart of C12: on `/s1/…/sn` with non-empty segments whose last one is not `.` or `..`, RFC 3986
`remove_dot_segments` (continuing from output buffer `/t1/…/tk`) and the stack machine of Go's rooted
`path.Clean` (continuing from stack `t1 … tk`) produce the same text. -/
theorem rdsLoop_slashed (segs : List Seg) : ∀ (S : List Seg), SegsOk segs → (∀ s ∈ S, Plain s ∧ '/' ∉ s) →
    (∀ l, segs.getLast? = some l → Plain l) →
    rdsLoop (slashed segs) (slashed S.reverse) = slashed (run true S segs).reverse := by
  induction segs with
  | nil => intro S _ _ _; exact rdsLoop_nil _
  | cons s rest ih =>
    intro S hsegs hS hlast
    obtain ⟨hs, hrest⟩ := List.forall_mem_cons.mp hsegs
    refine (rdsLoop_step (inp := slashed (s :: rest)) (List.cons_ne_nil _ _)
      (rdsStep_slashed hs hS fun h => hlast s (by rw [h]; rfl))).trans ?_
    exact ih _ hrest (step_all hS (fun hp => ⟨hp, hs.2⟩) nofun) fun l h =>
      hlast l (by rw [List.getLast?_cons, h]; rfl)

/-! ### Go's `Clean` and RFC `remove_dot_segments` on the same `/s1/…/sn` -/

theorem cleanL_slashed {segs : List Seg} (hok : SegsOk segs) (hne : segs ≠ [])
    (hlast : ∀ l, segs.getLast? = some l → Plain l) :
    cleanL (slashed segs) = removeDotSegmentsL (slashed segs) := by
  have h := rdsLoop_slashed segs [] hok (fun _ h => nomatch h) hlast
  have hT : (run true [] segs).reverse ≠ [] := by simpa using run_ne_nil hne hlast true []
  unfold removeDotSegmentsL
  rw [show slashed ([] : List Seg).reverse = [] from rfl] at h
  rw [h, slashed_eq_joinSegs hT, slashed_eq_joinSegs hne, cleanL_eq, splitOn_cons_slash,
    splitOn_joinSegs hne (fun s hs => (hok s hs).2)]
  rfl

/-- The base path: its directory part is `/s1/…/sk/` with non-empty `s_i`. -/
def BaseOkL (b : List Char) : Prop := ∃ bsegs, dirPart b = slashed bsegs ++ ['/'] ∧ SegsOk bsegs

/-- A relative reference path: non-empty elements, the last one neither `.` nor `..`. -/
def RelOkL (r : List Char) : Prop :=
  (∀ s ∈ splitOn r, s ≠ []) ∧ (splitOn r).getLast? ≠ some dot ∧ (splitOn r).getLast? ≠ some dotdot

theorem RelOkL.segsOk {r : List Char} (h : RelOkL r) : SegsOk (splitOn r) :=
  fun s hs => ⟨h.1 s hs, mem_splitOn_noSlash r s hs⟩

theorem RelOkL.last_plain {r : List Char} (h : RelOkL r) : ∀ l, (splitOn r).getLast? = some l → Plain l :=
  fun l hl => ⟨h.1 l (List.mem_of_getLast? hl), fun e => h.2.1 (e ▸ hl), fun e => h.2.2 (e ▸ hl)⟩

theorem RelOkL.not_abs {r : List Char} (h : RelOkL r) : isAbsL r = false :=
  Bool.eq_false_iff.mpr fun hr => h.1 [] (nil_mem_splitOn hr) rfl

theorem cleanL_ne_dot_of_relOk {r : List Char} (h : RelOkL r) : cleanL r ≠ ['.'] := by
  intro e
  have h1 := run_cleanL_rel h.not_abs false []
  rw [e, splitOn_dot] at h1
  exact run_ne_nil (splitOn_ne_nil r) h.last_plain false [] h1.symm

theorem go_rfc_path_rel {b r : List Char} (hb : BaseOkL b) (hr : RelOkL r) (auth : Bool) :
    joinL (dirL b) (cleanL r) = removeDotSegmentsL (mergeL auth b r) := by
  obtain ⟨bsegs, hd, hbs⟩ := hb
  have hdne : dirPart b ≠ [] := by rw [hd]; simp
  have hm : mergeL auth b r = slashed (bsegs ++ splitOn r) := by
    rw [mergeL, if_neg fun h => hdne (by rw [h.2]; rfl)]
    show dirPart b ++ r = _
    rw [hd, slashed_append, slashed_splitOn]; simp
  have hgo : joinL (dirL b) (cleanL r) = cleanL (slashed (bsegs ++ splitOn r)) := by
    rw [dirL, joinL_of_ne_nil (cleanL_ne_nil _), cleanL_append_cleanL _ hr.not_abs, cleanL_cleanL_append hdne,
      hd, slashed_append, slashed_splitOn, List.append_assoc]
    exact cleanL_double_slash _ _
  rw [hm, hgo]
  refine cleanL_slashed (fun s hs => (List.mem_append.mp hs).elim (hbs s) (hr.segsOk s)) (by simp [splitOn_ne_nil]) ?_
  intro l hl
  rw [List.getLast?_append, Option.or_of_isSome (List.getLast?_isSome.mpr (splitOn_ne_nil r))] at hl
  exact hr.last_plain l hl

theorem go_rfc_path_abs {r0 : List Char} (hr : RelOkL r0) : cleanL ('/' :: r0) = removeDotSegmentsL ('/' :: r0) := by
  rw [← slashed_splitOn]
  exact cleanL_slashed hr.segsOk (splitOn_ne_nil r0) hr.last_plain

theorem baseOkL_of_clean {b : List Char} (ha : isAbsL b = true) (hc : cleanL b = b) : BaseOkL b := by
  have hp := stack_plain b
  rw [cleanL_eq, ha] at hc
  cases hT : run true [] (splitOn b) with
  | nil => exact ⟨[], by rw [← hc, hT]; rfl, fun _ h => nomatch h⟩
  | cons l T' =>
    rw [hT] at hc hp
    rw [render, if_pos rfl, ← slashed_eq_joinSegs (by simp), slashed_reverse_cons] at hc
    refine ⟨T'.reverse, by rw [← hc, dirPart_append _ (hp l (by simp)).2], fun s hs => ?_⟩
    have hs' := hp s (List.mem_cons_of_mem _ (List.mem_reverse.mp hs))
    exact ⟨hs'.1.1, hs'.2⟩

end SpecModel.Url.Rfc
