/-
Specification side — RFC 3986 §5.2 "Relative Resolution", written from the RFC text, independently of the Go
code. It shares only the `URL` record (and no function) with the model of the implementation.

A component that is "undefined" in the RFC's sense is represented by the empty string (the same convention
as Go's `url.URL`, which cannot tell `http://h/p?` from `http://h/p` except through `ForceQuery`, outside the
model). `resolve` is the *strict* algorithm of §5.2.2.
Core only.
-/
import SpecModel.Url.Url

namespace SpecModel.Url.Rfc

/-- `some rest` when `l = pre ++ rest`. -/
def strip : (pre l : List Char) → Option (List Char)
  | [], l => some l
  | _ :: _, [] => none
  | p :: ps, c :: cs => if p = c then strip ps cs else none

/-- §5.2.4 2C: "removing the last segment and its preceding "/" (if any) from the output buffer". -/
def removeLastSegment (out : List Char) : List Char :=
  match out.reverse.dropWhile (· ≠ '/') with
  | [] => []
  | _ :: rest => rest.reverse

/-- One pass through the loop body of §5.2.4 step 2, on (input buffer, output buffer). -/
def rdsStep (inp out : List Char) : List Char × List Char :=
  -- A. If the input buffer begins with a prefix of "../" or "./", then remove that prefix
  if let some rest := strip ['.', '.', '/'] inp then (rest, out)
  else if let some rest := strip ['.', '/'] inp then (rest, out)
  -- B. if the input buffer begins with a prefix of "/./" or "/.", where "." is a complete path segment,
  --    then replace that prefix with "/"
  else if let some rest := strip ['/', '.', '/'] inp then ('/' :: rest, out)
  else if inp = ['/', '.'] then (['/'], out)
  -- C. if the input buffer begins with a prefix of "/../" or "/..", where ".." is a complete path segment,
  --    then replace that prefix with "/" and remove the last segment and its preceding "/" (if any)
  else if let some rest := strip ['/', '.', '.', '/'] inp then ('/' :: rest, removeLastSegment out)
  else if inp = ['/', '.', '.'] then (['/'], removeLastSegment out)
  -- D. if the input buffer consists only of "." or "..", then remove that
  else if inp = ['.'] ∨ inp = ['.', '.'] then ([], out)
  -- E. move the first path segment in the input buffer to the end of the output buffer, including the
  --    initial "/" character (if any) and any subsequent characters up to, but not including, the next "/"
  else
    match inp with
    | [] => ([], out)
    | c :: cs => (cs.dropWhile (· ≠ '/'), out ++ c :: cs.takeWhile (· ≠ '/'))

theorem strip_eq_some {pre l rest : List Char} (h : strip pre l = some rest) : l = pre ++ rest := by
  fun_induction strip pre l with
  | case1 l => exact Option.some.inj h ▸ rfl
  | case2 => cases h
  | case3 ps c cs ih => rw [ih h]; rfl
  | case4 => cases h

theorem rdsStep_lt (inp out : List Char) (h : inp ≠ []) : (rdsStep inp out).1.length < inp.length := by
  unfold rdsStep
  split
  · next h1 => simp [strip_eq_some h1]; omega
  split
  · next h1 => simp [strip_eq_some h1]; omega
  split
  · next h1 => simp [strip_eq_some h1]
  split
  · next h1 => simp [h1]
  split
  · next h1 => simp [strip_eq_some h1]
  split
  · next h1 => simp [h1]
  split
  · next h1 => rcases h1 with h1 | h1 <;> simp [h1]
  · cases inp with
    | nil => exact absurd rfl h
    | cons c cs => exact Nat.lt_succ_of_le (List.dropWhile_sublist _).length_le

/-- §5.2.4 step 2: "While the input buffer is not empty, loop"; step 3: return the output buffer. -/
def rdsLoop (inp out : List Char) : List Char :=
  if _h : inp = [] then out
  else rdsLoop (rdsStep inp out).1 (rdsStep inp out).2
termination_by inp.length
decreasing_by exact rdsStep_lt inp out ‹_›

/-- §5.2.4 `remove_dot_segments`. -/
def removeDotSegmentsL (p : List Char) : List Char := rdsLoop p []

/-- §5.2.3 `merge`: "If the base URI has a defined authority component and an empty path, then return a
string consisting of "/" concatenated with the reference's path; otherwise, return a string consisting of
the reference's path component appended to all but the last segment of the base URI's path (i.e.,
excluding any characters after the right-most "/" in the base URI path, or excluding the entire base URI
path if it does not contain any "/" characters)". -/
def mergeL (baseHasAuthority : Bool) (basePath refPath : List Char) : List Char :=
  if baseHasAuthority ∧ basePath = [] then '/' :: refPath
  else (basePath.reverse.dropWhile (· ≠ '/')).reverse ++ refPath

def removeDotSegments (p : String) : String := String.ofList (removeDotSegmentsL p.toList)

def merge (base : URL) (refPath : String) : String :=
  String.ofList (mergeL (base.host ≠ "") base.path.toList refPath.toList)

/-- §5.2.2 "Transform References", strict (a reference with a scheme is never treated as relative). -/
def resolve (base r : URL) : URL :=
  if r.scheme ≠ "" then
    { scheme := r.scheme, host := r.host, path := removeDotSegments r.path, query := r.query,
      fragment := r.fragment }
  else if r.host ≠ "" then
    { scheme := base.scheme, host := r.host, path := removeDotSegments r.path, query := r.query,
      fragment := r.fragment }
  else if r.path = "" then
    { scheme := base.scheme, host := base.host, path := base.path,
      query := if r.query ≠ "" then r.query else base.query, fragment := r.fragment }
  else if r.path.toList.head? = some '/' then
    { scheme := base.scheme, host := base.host, path := removeDotSegments r.path, query := r.query,
      fragment := r.fragment }
  else
    { scheme := base.scheme, host := base.host, path := removeDotSegments (merge base r.path),
      query := r.query, fragment := r.fragment }

end SpecModel.Url.Rfc
