/-
Lemmas for the cache / loader protocol model (C16, C17, C18).  Statements of record are in
`SpecModel/Props/C16.lean`, `C17.lean`, `C18.lean`.

Three ideas carry the file.
* `Prog.eval`: a program without bare reads has a meaning that depends on the cache and the loader only through
  `view`; every transparency statement compares two runs through it (`result_eq_eval`).
* `runSeq_steps`: a sequential run is the thread `.run p` stepped to completion, so what one atomic action
  preserves (`step_checked`, `step_good`) holds of whole runs and of whole schedules alike.
* `check_fetch_once`: "fetched at most once" is a property of every trace the validator accepts, hence of the
  model's traces because they are accepted.
-/
import SpecModel.Cache.Model

namespace SpecModel.Cache

variable {δ ε α : Type}

namespace Cache

@[simp] theorem get_nil (u : Url) : get ([] : Cache δ) u = none := rfl

theorem get_set (C : Cache δ) (u v : Url) (d : δ) :
    (C.set u d).get v = if u = v then some d else C.get v := rfl

@[simp] theorem get_set_self (C : Cache δ) (u : Url) (d : δ) : (C.set u d).get u = some d := by
  simp [get_set]

@[simp] theorem keys_set (C : Cache δ) (u : Url) (d : δ) : (C.set u d).keys = u :: C.keys := rfl

theorem get_isSome_iff (C : Cache δ) (u : Url) : (C.get u).isSome = true ↔ u ∈ C.keys := by
  induction C with
  | nil => simp [keys]
  | cons hd tl ih =>
    obtain ⟨k, d⟩ := hd
    show (if k = u then some d else get tl u).isSome = true ↔ u ∈ k :: keys tl
    by_cases h : k = u
    · simp [h]
    · simp [h, Ne.symm h, ih]

theorem mem_of_get {C : Cache δ} {u : Url} {d : δ} (h : C.get u = some d) : (u, d) ∈ C := by
  fun_induction get C u <;> simp_all

@[simp] theorem clone_eq (C : Cache δ) : C.clone = C := rfl

end Cache

theorem view_nil (L : Url → Except ε δ) : view ([] : Cache δ) L = L := rfl

theorem view_of_get {C : Cache δ} {L : Url → Except ε δ} {u : Url} {d : δ} (h : C.get u = some d) :
    view C L u = .ok d := by simp [view, h]

theorem view_of_miss {C : Cache δ} {L : Url → Except ε δ} {u : Url} (h : C.get u = none) :
    view C L u = L u := by simp [view, h]

theorem view_set (C : Cache δ) (L : Url → Except ε δ) (u v : Url) (d : δ) :
    view (C.set u d) L v = if u = v then .ok d else view C L v := by
  by_cases h : u = v <;> simp [view, Cache.get_set, h]

theorem view_set_loaded {C : Cache δ} {L : Url → Except ε δ} {u : Url} {d : δ}
    (h : view C L u = .ok d) : view (C.set u d) L = view C L := by
  funext v
  rw [view_set]
  split
  · next huv => rw [← huv, h]
  · rfl

theorem coherent_empty (L : Url → Except ε δ) (Ps : List (Url × δ)) : Coherent ([] : Cache δ) L Ps := by
  intro u d h; simp at h

theorem Coherent.mono {C : Cache δ} {L : Url → Except ε δ} {Ps Qs : List (Url × δ)}
    (h : Coherent C L Ps) (hs : ∀ x ∈ Ps, x ∈ Qs) : Coherent C L Qs := by
  intro u d hg
  cases h u d hg with
  | inl h => exact .inl h
  | inr h => exact .inr (hs _ h)

theorem Coherent.set {C : Cache δ} {L : Url → Except ε δ} {Ps : List (Url × δ)} (h : Coherent C L Ps)
    {u : Url} {d : δ} (hd : L u = .ok d ∨ (u, d) ∈ Ps) : Coherent (C.set u d) L Ps := by
  intro v e hv
  rw [Cache.get_set] at hv
  split at hv
  · next huv => cases hv; exact huv ▸ hd
  · exact h v e hv

theorem Coherent.view_eq {C : Cache δ} {L : Url → Except ε δ} {Ps : List (Url × δ)} (h : Coherent C L Ps)
    {u : Url} (hu : u ∉ Ps.map (·.1)) : view C L u = L u := by
  cases hg : C.get u with
  | none => exact view_of_miss hg
  | some d =>
    rw [view_of_get hg]
    exact (h u d hg).elim Eq.symm fun hm => absurd (List.mem_map.2 ⟨_, hm, rfl⟩) hu

theorem coherent_nil_iff (C : Cache δ) (L : Url → Except ε δ) : Coherent C L [] ↔ view C L = L :=
  ⟨fun h => funext fun _ => h.view_eq (by simp), fun h u d hg => .inl (by rw [← h, view_of_get hg])⟩

/-! ### `runSeq`: its equations

`fun_induction runSeq p C L` splits a proof along these six equations. -/

@[simp] theorem runSeq_ret (a : α) (C : Cache δ) (L : Url → Except ε δ) :
    runSeq (.ret a : Prog δ ε α) C L = ⟨a, C, [], [], []⟩ := rfl

theorem runSeq_load_hit {u : Url} {k : Except ε δ → Prog δ ε α} {C : Cache δ} {L : Url → Except ε δ} {d : δ}
    (h : C.get u = some d) :
    runSeq (.load u k) C L = (runSeq (k (.ok d)) C L).prepend [] [.get u true] [] := by
  simp [runSeq, h]

theorem runSeq_load_ok {u : Url} {k : Except ε δ → Prog δ ε α} {C : Cache δ} {L : Url → Except ε δ} {d : δ}
    (h : C.get u = none) (hl : L u = .ok d) :
    runSeq (.load u k) C L =
      (runSeq (k (.ok d)) (C.set u d) L).prepend [u] [.get u false, .fetch u true, .set u] [] := by
  simp [runSeq, h, hl]

theorem runSeq_load_err {u : Url} {k : Except ε δ → Prog δ ε α} {C : Cache δ} {L : Url → Except ε δ} {e : ε}
    (h : C.get u = none) (hl : L u = .error e) :
    runSeq (.load u k) C L = (runSeq (k (.error e)) C L).prepend [u] [.get u false, .fetch u false] [] := by
  simp [runSeq, h, hl]

@[simp] theorem runSeq_setPseudo (u : Url) (d : δ) (k : Unit → Prog δ ε α) (C : Cache δ) (L : Url → Except ε δ) :
    runSeq (.setPseudo u d k) C L = (runSeq (k ()) (C.set u d) L).prepend [] [.set u] [(u, d)] := rfl

@[simp] theorem runSeq_peek (u : Url) (k : Option δ → Prog δ ε α) (C : Cache δ) (L : Url → Except ε δ) :
    runSeq (.peek u k) C L = (runSeq (k (C.get u)) C L).prepend [] [.get u (C.get u).isSome] [] := rfl

@[simp] theorem prepend_result (r : Run δ α) (l t ps) : (r.prepend l t ps).result = r.result := rfl
@[simp] theorem prepend_cache (r : Run δ α) (l t ps) : (r.prepend l t ps).cache = r.cache := rfl
@[simp] theorem prepend_log (r : Run δ α) (l t ps) : (r.prepend l t ps).log = l ++ r.log := rfl
@[simp] theorem prepend_trace (r : Run δ α) (l t ps) : (r.prepend l t ps).trace = t ++ r.trace := rfl
@[simp] theorem prepend_pseudo (r : Run δ α) (l t ps) : (r.prepend l t ps).pseudo = ps ++ r.pseudo := rfl

@[simp] theorem fetches_nil : fetches [] = [] := rfl
@[simp] theorem fetches_get (u h t) : fetches (.get u h :: t) = fetches t := rfl
@[simp] theorem fetches_set (u t) : fetches (.set u :: t) = fetches t := rfl
@[simp] theorem fetches_fetch (u b t) : fetches (.fetch u b :: t) = u :: fetches t := rfl
@[simp] theorem okFetches_nil : okFetches [] = [] := rfl
@[simp] theorem okFetches_get (u h t) : okFetches (.get u h :: t) = okFetches t := rfl
@[simp] theorem okFetches_set (u t) : okFetches (.set u :: t) = okFetches t := rfl
@[simp] theorem okFetches_fetch_true (u t) : okFetches (.fetch u true :: t) = u :: okFetches t := rfl
@[simp] theorem okFetches_fetch_false (u t) : okFetches (.fetch u false :: t) = okFetches t := rfl

theorem okFetches_append (t1 t2 : List Event) : okFetches (t1 ++ t2) = okFetches t1 ++ okFetches t2 := by
  induction t1 with
  | nil => rfl
  | cons e t ih =>
    cases e with
    | fetch u b => cases b <;> simpa using ih
    | _ => simpa using ih

theorem fetches_append (t1 t2 : List Event) : fetches (t1 ++ t2) = fetches t1 ++ fetches t2 := by
  induction t1 with
  | nil => rfl
  | cons e t ih => cases e <;> simpa using ih

theorem okFetches_sub_fetches (t : List Event) (u : Url) (h : u ∈ okFetches t) : u ∈ fetches t := by
  induction t with
  | nil => exact h
  | cons e t ih =>
    cases e with
    | fetch v b =>
      cases b with
      | false => exact List.mem_cons_of_mem _ (ih h)
      | true => exact (List.mem_cons.1 h).elim (· ▸ List.mem_cons_self) fun h => List.mem_cons_of_mem _ (ih h)
    | _ => exact ih h

@[simp] theorem avoids_get (K : List Url) (u b t) : avoids K (.get u b :: t) = true ↔ u ∉ K ∧ avoids K t = true := by
  simp [avoids]
@[simp] theorem avoids_fetch (K : List Url) (u b t) : avoids K (.fetch u b :: t) = avoids K t := rfl
@[simp] theorem avoids_set (K : List Url) (u t) : avoids K (.set u :: t) = avoids (K.filter (· != u)) t := rfl

theorem avoids_nil (t : List Event) : avoids [] t = true := by
  induction t with
  | nil => rfl
  | cons e t ih => cases e <;> simpa using ih

/-! ### C18: the result depends on cache and loader only through the view -/

/-- What a program returns when every `load` is answered by `V` and a pseudo write overrides `V`.
This is the meaning of a program that reads the cache through `load` only (`PeekFree`); a bare read is not a
function of the view, and its clause here is never used. -/
def Prog.eval : Prog δ ε α → (Url → Except ε δ) → α
  | .ret a, _ => a
  | .load u k, V => eval (k (V u)) V
  | .setPseudo u d k, V => eval (k ()) (fun v => if u = v then .ok d else V v)
  | .peek _ k, V => eval (k none) V

/-- `K` is a set of keys on which the view of the cache and `V` may disagree (entries left by earlier calls).
A run that never reads a key of `K` before writing it returns what `V` prescribes. -/
theorem result_eq_eval {p : Prog δ ε α} (hp : PeekFree p) (C : Cache δ) (L : Url → Except ε δ) (K : List Url)
    (V : Url → Except ε δ) (hv : ∀ u, u ∉ K → view C L u = V u) (ha : avoids K (runSeq p C L).trace = true) :
    (runSeq p C L).result = p.eval V := by
  fun_induction runSeq p C L generalizing K V with
  | case1 => rfl
  | case2 u k C L d hg ih =>
    cases hp with | load _ _ hk =>
    simp only [prepend_trace, List.cons_append, List.nil_append, avoids_get] at ha
    rw [Prog.eval, ← hv u ha.1, view_of_get hg]
    exact ih (hk _) K V hv ha.2
  | case3 u k C L hg d hl ih =>
    cases hp with | load _ _ hk =>
    simp only [prepend_trace, List.cons_append, List.nil_append, avoids_get, avoids_fetch, avoids_set] at ha
    have hu : view C L u = .ok d := (view_of_miss hg).trans hl
    rw [Prog.eval, ← hv u ha.1, hu]
    refine ih (hk _) _ V (fun v hvK => ?_) ha.2
    rw [view_set_loaded hu]
    by_cases huv : v = u
    · exact huv ▸ hv u ha.1
    · exact hv v fun hm => hvK (List.mem_filter.2 ⟨hm, by simpa using huv⟩)
  | case4 u k C L hg e hl ih =>
    cases hp with | load _ _ hk =>
    simp only [prepend_trace, List.cons_append, List.nil_append, avoids_get, avoids_fetch] at ha
    rw [Prog.eval, ← hv u ha.1, view_of_miss hg, hl]
    exact ih (hk _) K V hv ha.2
  | case5 u d k C L ih =>
    cases hp with | setPseudo _ _ _ hk =>
    refine ih hk _ _ (fun v hvK => ?_) ha
    rw [view_set]
    split
    · rfl
    · next huv => exact hv v fun hm => hvK (List.mem_filter.2 ⟨hm, by simpa using Ne.symm huv⟩)
  | case6 => cases hp

theorem result_eq_eval_view {p : Prog δ ε α} (hp : PeekFree p) (C : Cache δ) (L : Url → Except ε δ) :
    (runSeq p C L).result = p.eval (view C L) :=
  result_eq_eval hp C L [] _ (fun _ _ => rfl) (avoids_nil _)

theorem result_of_coherent {p : Prog δ ε α} (hp : PeekFree p) {C : Cache δ} {L : Url → Except ε δ}
    (h : Coherent C L []) : (runSeq p C L).result = (runSeq p [] L).result := by
  rw [result_eq_eval_view hp, result_eq_eval_view hp, (coherent_nil_iff C L).1 h, view_nil]

theorem LoadOnly.peekFree {p : Prog δ ε α} (hp : LoadOnly p) : PeekFree p := by
  induction hp with
  | ret a => exact .ret a
  | load u k _ ih => exact .load u k ih

theorem pseudo_nil_of_loadOnly {p : Prog δ ε α} (hp : LoadOnly p) (C : Cache δ) (L : Url → Except ε δ) :
    (runSeq p C L).pseudo = [] := by
  fun_induction runSeq p C L with
  | case1 => rfl
  | case2 _ _ _ _ _ _ ih | case3 _ _ _ _ _ _ _ ih | case4 _ _ _ _ _ _ _ ih =>
    cases hp with | load _ _ hk => simpa using ih (hk _)
  | case5 | case6 => cases hp

/-! ### Log and trace tell the same story -/

theorem log_eq_fetches (p : Prog δ ε α) (C : Cache δ) (L : Url → Except ε δ) :
    (runSeq p C L).log = fetches (runSeq p C L).trace := by
  fun_induction runSeq p C L <;> simp [*]

/-- "Successful" made precise twice, and the two agree: the `fetch u ok` events of the trace are the
logged loader calls on which the loader answers with a document. -/
theorem okFetches_eq_filter (p : Prog δ ε α) (C : Cache δ) (L : Url → Except ε δ) :
    okFetches (runSeq p C L).trace = (runSeq p C L).log.filter (fun u => isOk (L u)) := by
  fun_induction runSeq p C L <;> simp [*, isOk]

/-! ### C16: heap of caches -/

theorem runCall_head (G : Cache δ) (T : Heap δ) (c : Call δ ε α) (h : c.arg ≠ .some 0) :
    ∃ T', (runCall (G :: T) c).1 = G :: T' := by
  unfold runCall
  cases hc : c.arg with
  | none => exact ⟨T ++ [_], rfl⟩
  | some id =>
    cases id with
    | zero => exact absurd hc h
    | succ n => exact ⟨T.set n _, rfl⟩

theorem runCall_none (G : Cache δ) (T : Heap δ) (c : Call δ ε α) (h : c.arg = .none) :
    (runCall (G :: T) c).2 = runSeq c.prog G.clone c.loader := by
  unfold runCall; rw [h]; rfl

theorem runHistory_cons (H : Heap δ) (c : Call δ ε α) (cs : List (Call δ ε α)) :
    runHistory H (c :: cs) =
      ((runHistory (runCall H c).1 cs).1, (runCall H c).2 :: (runHistory (runCall H c).1 cs).2) := rfl

theorem runHistory_length (h : List (Call δ ε α)) (H : Heap δ) : (runHistory H h).2.length = h.length := by
  induction h generalizing H with
  | nil => rfl
  | cons c cs ih => rw [runHistory_cons]; simp [ih]

/-! ### The small-step semantics

`fun_cases step C L s` gives the eight clauses of `step` in the order of its definition: finished, `load` hit,
`load` miss, loader answers, loader fails, store, direct `Set`, direct `Get`. -/

theorem TState.finished_iff {s : TState δ ε α} : s.finished = true ↔ ∃ a, s = .run (.ret a) := by
  cases s with
  | run p => cases p <;> simp [finished]
  | _ => simp [finished]

theorem TState.result?_eq_some {s : TState δ ε α} {a : α} : s.result? = some a ↔ s = .run (.ret a) := by
  cases s with
  | run p => cases p <;> simp [result?]
  | _ => simp [result?]

theorem step_finished {C : Cache δ} {L : Url → Except ε δ} {s : TState δ ε α} (h : s.finished = true) :
    step C L s = (C, s, []) := by
  obtain ⟨a, rfl⟩ := TState.finished_iff.1 h
  rfl

theorem step_one_event (C : Cache δ) (L : Url → Except ε δ) {s : TState δ ε α} (h : s.finished = false) :
    ∃ e, (step C L s).2.2 = [e] := by
  fun_cases step C L s
  case case1 => cases h
  all_goals exact ⟨_, rfl⟩

/-- A sequential run is the thread `.run p` stepped until it has finished: an invariant of cache, thread state
and trace that every atomic action preserves holds at the end of the run.  The sequential semantics gets its
invariants from the concurrent one through this. -/
theorem runSeq_steps (L : Url → Except ε δ) {I : Cache δ → TState δ ε α → List Event → Prop}
    (hI : ∀ C s t, I C s t → I (step C L s).1 (step C L s).2.1 (t ++ (step C L s).2.2))
    (p : Prog δ ε α) (C : Cache δ) (t : List Event) (h : I C (.run p) t) :
    I (runSeq p C L).cache (.run (.ret (runSeq p C L).result)) (t ++ (runSeq p C L).trace) := by
  fun_induction runSeq p C L generalizing t with
  | case1 => simpa using h
  | case2 u k C L d hg ih =>
    have h1 := hI _ _ _ h
    simp only [step, hg] at h1
    simpa using ih hI _ h1
  | case3 u k C L hg d hl ih =>
    have h1 := hI _ _ _ h
    simp only [step, hg] at h1
    have h2 := hI _ _ _ h1
    simp only [step, hl] at h2
    simpa [step] using ih hI _ (hI _ _ _ h2)
  | case4 u k C L hg e hl ih =>
    have h1 := hI _ _ _ h
    simp only [step, hg] at h1
    have h2 := hI _ _ _ h1
    simp only [step, hl] at h2
    simpa using ih hI _ h2
  | case5 u d k C L ih => simpa [step] using ih hI _ (hI _ _ _ h)
  | case6 u k C L ih => simpa [step] using ih hI _ (hI _ _ _ h)

/-! ### The trace validator accepts what the model does -/

theorem checkEvent_get_ok {keys : List Url} {ph : Phase} {u : Url} {b : Bool} {r : List Url × Phase} :
    checkEvent keys ph (.get u b) = .ok r ↔
      phaseFinal ph = true ∧ b = decide (u ∈ keys) ∧ r = (keys, if b then .idle else .missed u) := by
  cases ph <;> cases b <;> by_cases h : u ∈ keys <;> simp [checkEvent, phaseFinal, h, eq_comm]

theorem checkEvent_fetch_ok {keys : List Url} {ph : Phase} {u : Url} {b : Bool} {r : List Url × Phase} :
    checkEvent keys ph (.fetch u b) = .ok r ↔ ph = .missed u ∧ r = (keys, if b then .fetched u else .idle) := by
  cases ph with
  | missed w => by_cases h : w = u <;> simp [checkEvent, h, @eq_comm _ r]
  | _ => simp [checkEvent]

theorem checkEvent_set_ok {keys : List Url} {ph : Phase} {u : Url} {r : List Url × Phase} :
    checkEvent keys ph (.set u) = .ok r ↔ (∀ w, ph = .fetched w → w = u) ∧ r = (u :: keys, .idle) := by
  cases ph with
  | fetched w => by_cases h : w = u <;> simp [checkEvent, h, @eq_comm _ r]
  | _ => simp [checkEvent, @eq_comm _ r]

theorem checkTrace_cons_ok {keys : List Url} {ph : Phase} {e : Event} {r : List Url × Phase}
    (h : checkEvent keys ph e = .ok r) (i : Nat) (t : List Event) :
    checkTrace keys ph i (e :: t) = checkTrace r.1 r.2 (i + 1) t := by
  simp [checkTrace, h]

theorem checkTrace_append {keys : List Url} {ph : Phase} {i : Nat} {t1 : List Event} {r : List Url × Phase}
    (h : checkTrace keys ph i t1 = .ok r) (t2 : List Event) :
    checkTrace keys ph i (t1 ++ t2) = checkTrace r.1 r.2 (i + t1.length) t2 := by
  fun_induction checkTrace keys ph i t1 with
  | case1 => cases h; rfl
  | case2 => cases h
  | case3 keys ph i e t keys' ph' he ih =>
    rw [List.cons_append, checkTrace_cons_ok he, ih h, List.length_cons, Nat.add_assoc, Nat.add_comm 1]

def KeysEq (keys : List Url) (C : Cache δ) : Prop := ∀ u, u ∈ keys ↔ u ∈ C.keys

theorem KeysEq.set {keys : List Url} {C : Cache δ} (h : KeysEq keys C) (u : Url) (d : δ) :
    KeysEq (u :: keys) (C.set u d) := by
  intro v; simp [h v]

theorem KeysEq.refl (C : Cache δ) : KeysEq C.keys C := fun _ => Iff.rfl

def PhaseMatch : TState δ ε α → Phase → Prop
  | .run _, ph => phaseFinal ph = true
  | .fetching u _, ph => ph = .missed u
  | .storing u _ _, ph => ph = .fetched u

theorem phaseMatch_finished {s : TState δ ε α} {ph : Phase} (hf : s.finished = true) (hm : PhaseMatch s ph) :
    phaseFinal ph = true := by
  obtain ⟨a, rfl⟩ := TState.finished_iff.1 hf
  exact hm

theorem checkEvent_get {keys : List Url} {C : Cache δ} {ph : Phase} (hk : KeysEq keys C)
    (hp : phaseFinal ph = true) (u : Url) :
    checkEvent keys ph (.get u (C.get u).isSome) = .ok (keys, if (C.get u).isSome then .idle else .missed u) :=
  checkEvent_get_ok.2 ⟨hp, by rw [Bool.eq_iff_iff, decide_eq_true_iff, hk u, Cache.get_isSome_iff], rfl⟩

theorem checkEvent_set {keys : List Url} {ph : Phase} (hp : phaseFinal ph = true) (u : Url) :
    checkEvent keys ph (.set u) = .ok (u :: keys, .idle) :=
  checkEvent_set_ok.2 ⟨fun w hw => (by subst hw; cases hp), rfl⟩

theorem checkEvent_store (keys : List Url) (u : Url) :
    checkEvent keys (.fetched u) (.set u) = .ok (u :: keys, .idle) :=
  checkEvent_set_ok.2 ⟨fun _ hw => (Phase.fetched.inj hw).symm, rfl⟩

/-- One step of one thread (no event if it has finished), seen by the validator. -/
theorem step_checked {C : Cache δ} (L : Url → Except ε δ) {s : TState δ ε α} {keys : List Url} {ph : Phase}
    (hk : KeysEq keys C) (hm : PhaseMatch s ph) (i : Nat) :
    ∃ keys' ph', checkTrace keys ph i (step C L s).2.2 = .ok (keys', ph') ∧
      KeysEq keys' (step C L s).1 ∧ PhaseMatch (step C L s).2.1 ph' := by
  fun_cases step C L s with
  | case1 => exact ⟨keys, ph, rfl, hk, hm⟩
  | case2 u k d hg =>
    exact ⟨keys, .idle, checkTrace_cons_ok (by simpa [hg] using checkEvent_get hk hm u) i [], hk, rfl⟩
  | case3 u k hg =>
    exact ⟨keys, .missed u, checkTrace_cons_ok (by simpa [hg] using checkEvent_get hk hm u) i [], hk, rfl⟩
  | case4 u k d hl => exact ⟨keys, .fetched u, checkTrace_cons_ok (checkEvent_fetch_ok.2 ⟨hm, rfl⟩) i [], hk, rfl⟩
  | case5 u k e hl => exact ⟨keys, .idle, checkTrace_cons_ok (checkEvent_fetch_ok.2 ⟨hm, rfl⟩) i [], hk, rfl⟩
  | case6 u d p => exact ⟨u :: keys, .idle, checkTrace_cons_ok (hm ▸ checkEvent_store keys u) i [], hk.set u d, rfl⟩
  | case7 u d k => exact ⟨u :: keys, .idle, checkTrace_cons_ok (checkEvent_set hm u) i [], hk.set u d, rfl⟩
  | case8 u k =>
    refine ⟨keys, _, checkTrace_cons_ok (checkEvent_get hk hm u) i [], hk, ?_⟩
    show phaseFinal _ = true
    split <;> rfl

/-- The model only produces protocol-conforming traces (generalised over the checker state). -/
theorem trace_ok (p : Prog δ ε α) (C : Cache δ) (L : Url → Except ε δ) (keys : List Url) (ph : Phase) (i : Nat)
    (hk : KeysEq keys C) (hp : phaseFinal ph = true) :
    ∃ keys' ph', checkTrace keys ph i (runSeq p C L).trace = .ok (keys', ph') ∧
      KeysEq keys' (runSeq p C L).cache ∧ phaseFinal ph' = true := by
  refine runSeq_steps L (I := fun C' s t => ∃ keys' ph', checkTrace keys ph i t = .ok (keys', ph') ∧
    KeysEq keys' C' ∧ PhaseMatch s ph') ?_ p C [] ⟨keys, ph, rfl, hk, hp⟩
  rintro C' s t ⟨k1, p1, hc, hk1, hm1⟩
  obtain ⟨k2, p2, hc2, hk2, hm2⟩ := step_checked L hk1 hm1 (i + t.length)
  exact ⟨k2, p2, by rw [checkTrace_append hc]; exact hc2, hk2, hm2⟩

def chainTrace (rs : List (Run δ α)) : List Event := rs.flatMap (·.trace)

theorem chain_trace_ok (ps : List (Prog δ ε α)) (L : Url → Except ε δ) (C : Cache δ) (keys : List Url)
    (ph : Phase) (i : Nat) (hk : KeysEq keys C) (hp : phaseFinal ph = true) :
    ∃ keys' ph', checkTrace keys ph i (chainTrace (runMany ps C L)) = .ok (keys', ph') ∧
      phaseFinal ph' = true := by
  induction ps generalizing C keys ph i with
  | nil => exact ⟨keys, ph, rfl, hp⟩
  | cons p ps ih =>
    obtain ⟨k1, p1, h1, hk1, hp1⟩ := trace_ok p C L keys ph i hk hp
    obtain ⟨k2, p2, h2, hp2⟩ := ih (runSeq p C L).cache k1 p1 (i + (runSeq p C L).trace.length) hk1 hp1
    refine ⟨k2, p2, ?_, hp2⟩
    simp only [runMany, chainTrace, List.flatMap_cons]
    rw [checkTrace_append h1]; exact h2

/-! ### Every accepted trace fetches at most once -/

/-- Keys the checker considers unavailable for a fetch: those present, plus the one being stored. -/
def held (keys : List Url) : Phase → List Url
  | .fetched u => u :: keys
  | _ => keys

/-- A thread that missed on `u` (or is storing `u`) did so because `u` was absent. -/
def PhInv (keys : List Url) : Phase → Prop
  | .idle => True
  | .missed u => u ∉ keys
  | .fetched u => u ∉ keys

theorem held_of_final {keys : List Url} {ph : Phase} (h : phaseFinal ph = true) : held keys ph = keys := by
  cases ph <;> first | rfl | cases h

/-- One accepted event: the invariant is kept, held keys only grow, a fetch is for a key not held and
a successful one makes the key held. -/
theorem checkEvent_spec {keys keys' : List Url} {ph ph' : Phase} {e : Event}
    (hi : PhInv keys ph) (h : checkEvent keys ph e = .ok (keys', ph')) :
    PhInv keys' ph' ∧ (∀ v, v ∈ held keys ph → v ∈ held keys' ph') ∧
      (∀ u b, e = .fetch u b → u ∉ held keys ph ∧ (b = true → u ∈ held keys' ph')) := by
  cases e with
  | get u b =>
    obtain ⟨hp, rfl, hr⟩ := checkEvent_get_ok.1 h
    cases hr
    rw [held_of_final hp]
    by_cases hu : u ∈ keys <;> simp [hu, PhInv, held]
  | fetch u b =>
    obtain ⟨rfl, hr⟩ := checkEvent_fetch_ok.1 h
    cases hr
    have hu : u ∉ keys := hi
    cases b with
    | false => simp [PhInv, held, hu]
    | true => simpa [PhInv, held, hu] using fun _ => Or.inr
  | set u =>
    obtain ⟨hw, hr⟩ := checkEvent_set_ok.1 h
    cases hr
    refine ⟨trivial, fun v hv => ?_, nofun⟩
    cases ph with
    | fetched w => exact hw w rfl ▸ hv
    | _ => exact List.mem_cons_of_mem _ hv

/-- Any accepted trace (even a truncated one) fetches only keys that are not held, and fetches no key
successfully twice. -/
theorem check_fetch_once (t : List Event) (keys : List Url) (ph : Phase) (i : Nat) (r : List Url × Phase)
    (hi : PhInv keys ph) (h : checkTrace keys ph i t = .ok r) :
    (∀ v ∈ fetches t, v ∉ held keys ph) ∧ (okFetches t).Nodup := by
  fun_induction checkTrace keys ph i t with
  | case1 => simp
  | case2 => cases h
  | case3 keys ph i e t k1 p1 he ih =>
    obtain ⟨hi1, hmono, hf⟩ := checkEvent_spec hi he
    obtain ⟨ih1, ih2⟩ := ih hi1 h
    have hrest : ∀ v ∈ fetches t, v ∉ held keys ph := fun v hv hh => ih1 v hv (hmono v hh)
    cases e with
    | fetch u b =>
      obtain ⟨hu, hb⟩ := hf u b rfl
      refine ⟨fun v hv => ?_, ?_⟩
      · cases List.mem_cons.1 hv with
        | inl hv => exact hv ▸ hu
        | inr hv => exact hrest v hv
      · cases b with
        | false => exact ih2
        | true => exact List.nodup_cons.2 ⟨fun hm => ih1 u (okFetches_sub_fetches t u hm) (hb rfl), ih2⟩
    | _ => exact ⟨hrest, ih2⟩

theorem validFrom_ok {keys : List Url} {ph : Phase} {t : List Event} (h : validFrom keys ph t = true) :
    ∃ r, checkTrace keys ph 0 t = .ok r := by
  unfold validFrom at h
  split at h
  · next k p hk => exact ⟨_, hk⟩
  · cases h

/-- From the idle phase, "not held" is "not among the initial keys". -/
theorem fetch_once_of_checked {keys : List Url} {t : List Event} {r : List Url × Phase}
    (h : checkTrace keys .idle 0 t = .ok r) : (okFetches t).Nodup ∧ ∀ u ∈ fetches t, u ∉ keys :=
  (check_fetch_once t keys .idle 0 r trivial h).symm

/-! ### C17: the sharing discipline -/

section Discipline
variable (P : Url → Option δ) (L : Url → Except ε δ) (V : Url → Except ε δ)

/-- Off the pseudo keys the shared cache shows what the initial cache showed. -/
def CInv (C : Cache δ) : Prop := ∀ u, P u = none → view C L u = V u

/-- The keys a thread has written itself hold the agreed pseudo documents. -/
def OwnOK (C : Cache δ) (own : List Url) : Prop := ∀ u ∈ own, ∃ d, P u = some d ∧ C.get u = some d

/-- State of a thread that is on its ideal path towards the result `a`. -/
def Good (own : List Url) : TState δ ε α → α → Prop
  | .run p, a => Ideal P V own p a
  | .fetching u k, a => P u = none ∧ L u = V u ∧ Ideal P V own (k (V u)) a
  | .storing u d p, a => P u = none ∧ L u = .ok d ∧ V u = .ok d ∧ Ideal P V own p a

variable {P L V}

theorem OwnOK.get {C : Cache δ} {own : List Url} (h : OwnOK P C own) {u : Url} {d : δ} (hu : u ∈ own)
    (hP : P u = some d) : C.get u = some d := by
  obtain ⟨e, he, hg⟩ := h u hu
  rw [hP] at he; cases he; exact hg

/-- A write that respects the table `P` (a pseudo key only ever receives its agreed document) leaves every
thread's own entries in place. -/
theorem OwnOK.set {C : Cache δ} {own : List Url} (h : OwnOK P C own) {u : Url} {d : δ}
    (hP : ∀ e, P u = some e → e = d) : OwnOK P (C.set u d) own := by
  intro w hw
  obtain ⟨e, he, hg⟩ := h w hw
  refine ⟨e, he, ?_⟩
  rw [Cache.get_set]
  split
  · next huw => subst huw; rw [hP e he]
  · exact hg

theorem CInv.set {C : Cache δ} (h : CInv P L V C) {u : Url} {d : δ} (hu : P u = none → V u = .ok d) :
    CInv P L V (C.set u d) := by
  intro v hv
  rw [view_set]
  split
  · next huv => subst huv; exact (hu hv).symm
  · exact h v hv

/-- One atomic action of a well-behaved thread keeps every invariant, and its write leaves the other threads'
own entries in place (so their invariants survive too). -/
theorem step_good {C : Cache δ} {own : List Url} {s : TState δ ε α} {a : α}
    (hC : CInv P L V C) (hg : Good P L V own s a) (ho : OwnOK P C own) :
    CInv P L V (step C L s).1 ∧ (∀ o, OwnOK P C o → OwnOK P (step C L s).1 o) ∧
      ∃ own', Good P L V own' (step C L s).2.1 a ∧ OwnOK P (step C L s).1 own' := by
  fun_cases step C L s with
  | case1 => exact ⟨hC, fun _ h => h, own, hg, ho⟩
  | case2 u k d hget =>
    refine ⟨hC, fun _ h => h, own, ?_, ho⟩
    cases hg with
    | loadOwn _ _ e _ _ hu hP hk => cases (ho.get hu hP).symm.trans hget; exact hk
    | loadExt _ _ _ _ hP hk => exact ((hC u hP).symm.trans (view_of_get hget)) ▸ hk
  | case3 u k hget =>
    refine ⟨hC, fun _ h => h, own, ?_, ho⟩
    cases hg with
    | loadOwn _ _ e _ _ hu hP hk => cases (ho.get hu hP).symm.trans hget
    | loadExt _ _ _ _ hP hk => exact ⟨hP, (view_of_miss hget).symm.trans (hC u hP), hk⟩
  | case4 u k d hl =>
    obtain ⟨hP, hLV, hk⟩ := hg
    have hV : V u = .ok d := hLV ▸ hl
    exact ⟨hC, fun _ h => h, own, ⟨hP, hl, hV, hV ▸ hk⟩, ho⟩
  | case5 u k e hl =>
    obtain ⟨hP, hLV, hk⟩ := hg
    have hV : V u = .error e := hLV ▸ hl
    exact ⟨hC, fun _ h => h, own, hV ▸ hk, ho⟩
  | case6 u d p =>
    obtain ⟨hP, hl, hV, hk⟩ := hg
    have hw : ∀ e, P u = some e → e = d := fun e he => by rw [hP] at he; cases he
    exact ⟨hC.set fun _ => hV, fun _ h => h.set hw, own, hk, ho.set hw⟩
  | case7 u d k =>
    cases hg with
    | setPseudo _ _ _ _ _ hP hk =>
      have hw : ∀ e, P u = some e → e = d := fun e he => by rw [hP] at he; cases he; rfl
      refine ⟨hC.set fun h => (by rw [hP] at h; cases h), fun _ h => h.set hw, u :: own, hk, fun w hw' => ?_⟩
      cases List.mem_cons.1 hw' with
      | inl h => exact ⟨d, h ▸ hP, h ▸ Cache.get_set_self C u d⟩
      | inr h => exact ho.set hw w h
  | case8 u k =>
    cases hg with
    | peekOwn _ _ e _ _ hu hP hk => exact ⟨hC, fun _ h => h, own, (ho.get hu hP) ▸ hk, ho⟩

/-- Alone on the cache, a thread on its ideal path gets the ideal result: the one-thread case of `step_good`. -/
theorem ideal_result {p : Prog δ ε α} {a : α} {C₀ : Cache δ} (hi : Ideal P (view C₀ L) [] p a) :
    (runSeq p C₀ L).result = a := by
  have := runSeq_steps L (I := fun C s _ => CInv P L (view C₀ L) C ∧ ∃ own, Good P L (view C₀ L) own s a ∧
    OwnOK P C own) ?_ p C₀ [] ⟨fun _ _ => rfl, [], hi, fun _ h => nomatch h⟩
  · obtain ⟨-, own, hg, -⟩ := this
    cases hg; rfl
  · rintro C s _ ⟨hC, own, hg, ho⟩
    obtain ⟨hC', -, hg'⟩ := step_good hC hg ho
    exact ⟨hC', hg'⟩

theorem LoadOnly.ideal {p : Prog δ ε α} (hp : LoadOnly p) (V : Url → Except ε δ) :
    ∃ a, Ideal (fun _ => none) V [] p a := by
  induction hp with
  | ret a => exact ⟨a, .ret [] a⟩
  | load u k _ ih =>
    obtain ⟨a, ha⟩ := ih (V u)
    exact ⟨a, .loadExt [] u k a rfl ha⟩

end Discipline

/-! ### C17: configurations -/

theorem stepThread_of_get {c : Config δ ε α} {L : Url → Except ε δ} {i : Nat} {s : TState δ ε α}
    (h : c.threads[i]? = some s) :
    c.stepThread L i = ⟨c.threads.set i (step c.cache L s).2.1, (step c.cache L s).1,
      c.trace ++ (step c.cache L s).2.2.map (fun e => (i, e))⟩ := by
  simp [Config.stepThread, h]

theorem stepThread_of_none {c : Config δ ε α} {L : Url → Except ε δ} {i : Nat}
    (h : c.threads[i]? = none) : c.stepThread L i = c := by
  simp [Config.stepThread, h]

theorem stepThread_length (c : Config δ ε α) (L : Url → Except ε δ) (i : Nat) :
    (c.stepThread L i).threads.length = c.threads.length := by
  cases h : c.threads[i]? with
  | none => rw [stepThread_of_none h]
  | some s => rw [stepThread_of_get h]; simp

theorem stepThread_other (c : Config δ ε α) (L : Url → Except ε δ) {i j : Nat} (hij : i ≠ j) :
    (c.stepThread L i).threads[j]? = c.threads[j]? := by
  cases h : c.threads[i]? with
  | none => rw [stepThread_of_none h]
  | some s => rw [stepThread_of_get h]; simp [hij]

theorem stepThread_self {c : Config δ ε α} (L : Url → Except ε δ) {i : Nat} {s : TState δ ε α}
    (h : c.threads[i]? = some s) :
    (c.stepThread L i).threads[i]? = some (step c.cache L s).2.1 := by
  rw [stepThread_of_get h]
  simp [(List.getElem?_eq_some_iff.1 h).1]

/-- How an invariant that speaks of every thread survives a step of thread `i`: check it for `i`'s new state,
and carry it over for the threads that did not move. -/
theorem stepThread_forall {c : Config δ ε α} {L : Url → Except ε δ} {i : Nat} {s : TState δ ε α}
    (h : c.threads[i]? = some s) {Q : Nat → TState δ ε α → Prop} (hi : Q i (step c.cache L s).2.1)
    (ho : ∀ j sj, i ≠ j → c.threads[j]? = some sj → Q j sj) :
    ∀ j sj, (c.stepThread L i).threads[j]? = some sj → Q j sj := by
  intro j sj hj
  by_cases hij : i = j
  · subst hij
    rw [stepThread_self L h] at hj
    cases hj
    exact hi
  · rw [stepThread_other c L hij] at hj
    exact ho j sj hij hj

theorem init_threads {ps : List (Prog δ ε α)} {C : Cache δ} {i : Nat} {s : TState δ ε α}
    (h : (Config.init ps C).threads[i]? = some s) : ∃ p, ps[i]? = some p ∧ .run p = s := by
  simpa [Config.init] using h

theorem runSched_induction {L : Url → Except ε δ} {I : Config δ ε α → Prop}
    (hI : ∀ c i, I c → I (c.stepThread L i)) (sched : List Nat) {c : Config δ ε α} (h : I c) :
    I (runSched c L sched) := by
  induction sched generalizing c with
  | nil => exact h
  | cons i l ih => exact ih (hI c i h)

theorem runSched_append (c : Config δ ε α) (L : Url → Except ε δ) (l₁ l₂ : List Nat) :
    runSched c L (l₁ ++ l₂) = runSched (runSched c L l₁) L l₂ := by
  induction l₁ generalizing c with
  | nil => rfl
  | cons i l ih => simp [runSched, ih]

theorem runSched_length (c : Config δ ε α) (L : Url → Except ε δ) (l : List Nat) :
    (runSched c L l).threads.length = c.threads.length :=
  runSched_induction (I := fun c' => c'.threads.length = c.threads.length)
    (fun c' i h => (stepThread_length c' L i).trans h) l rfl

section SchedInv
variable (P : Url → Option δ) (L : Url → Except ε δ) (V : Url → Except ε δ)

/-- Invariant of a shared-cache configuration whose thread `i` is heading for `as[i]`. -/
def SInv (as : List α) (c : Config δ ε α) : Prop :=
  CInv P L V c.cache ∧
    ∀ (i : Nat) (s : TState δ ε α), c.threads[i]? = some s → ∃ a own, as[i]? = some a ∧ Good P L V own s a ∧ OwnOK P c.cache own

variable {P L V}

theorem SInv.stepThread {as : List α} {c : Config δ ε α} (h : SInv P L V as c) (i : Nat) :
    SInv P L V as (c.stepThread L i) := by
  cases hi : c.threads[i]? with
  | none => rw [stepThread_of_none hi]; exact h
  | some s =>
    obtain ⟨hC, hT⟩ := h
    obtain ⟨a, own, ha, hg, ho⟩ := hT i s hi
    obtain ⟨hC', hframe, own', hg', ho'⟩ := step_good hC hg ho
    have hcache : (c.stepThread L i).cache = (step c.cache L s).1 := by rw [stepThread_of_get hi]
    rw [SInv, hcache]
    refine ⟨hC', stepThread_forall hi ⟨a, own', ha, hg', ho'⟩ fun j sj _ hj => ?_⟩
    obtain ⟨b, ownj, hb, hgj, hoj⟩ := hT j sj hj
    exact ⟨b, ownj, hb, hgj, hframe _ hoj⟩

theorem SInv.runSched {as : List α} (sched : List Nat) :
    ∀ {c : Config δ ε α}, SInv P L V as c → SInv P L V as (runSched c L sched) :=
  runSched_induction (fun _ i h => h.stepThread i) sched

theorem SInv.result {as : List α} {c : Config δ ε α} (h : SInv P L V as c) {i : Nat} {a : α}
    (hr : c.results[i]? = some (some a)) : as[i]? = some a := by
  simp only [Config.results, List.getElem?_map, Option.map_eq_some_iff] at hr
  obtain ⟨s, hs, hr⟩ := hr
  obtain ⟨b, own, hb, hg, -⟩ := h.2 i s hs
  cases TState.result?_eq_some.1 hr
  cases hg
  exact hb

end SchedInv

theorem sinv_init {P : Url → Option δ} {L : Url → Except ε δ} {C₀ : Cache δ} {ps : List (Prog δ ε α)}
    (h : ∀ p ∈ ps, ∃ a, Ideal P (view C₀ L) [] p a) :
    SInv P L (view C₀ L) (ps.map fun p => (runSeq p C₀ L).result) (Config.init ps C₀) := by
  refine ⟨fun _ _ => rfl, fun i s hs => ?_⟩
  obtain ⟨p, hp, rfl⟩ := init_threads hs
  obtain ⟨a, ha⟩ := h p (List.mem_of_getElem? hp)
  exact ⟨a, [], by simp [hp, ideal_result ha], ha, fun _ hm => nomatch hm⟩

/-! ### C17: traces of the concurrent semantics are accepted by the multi-thread validator -/

theorem checkTraceMT_append {keys : List Url} {phs : List (Nat × Phase)} {i : Nat} {t1 : List (Nat × Event)}
    {r : List Url × List (Nat × Phase)} (h : checkTraceMT keys phs i t1 = .ok r) (t2 : List (Nat × Event)) :
    checkTraceMT keys phs i (t1 ++ t2) = checkTraceMT r.1 r.2 (i + t1.length) t2 := by
  fun_induction checkTraceMT keys phs i t1 with
  | case1 => cases h; rfl
  | case2 => cases h
  | case3 keys phs i j e t keys' ph' he ih =>
    simp only [List.cons_append, checkTraceMT, he]
    rw [ih h, List.length_cons, Nat.add_assoc, Nat.add_comm 1]

theorem phaseOf_cons_self (phs : List (Nat × Phase)) (i : Nat) (ph : Phase) : phaseOf ((i, ph) :: phs) i = ph := by
  simp [phaseOf]

theorem phaseOf_cons_ne (phs : List (Nat × Phase)) {i j : Nat} (ph : Phase) (h : i ≠ j) :
    phaseOf ((i, ph) :: phs) j = phaseOf phs j := by
  simp [phaseOf, h]

/-- On the events of one thread the multi-thread validator is the single-thread one run on that thread's
phase; the other threads' phases are not touched. -/
theorem checkTraceMT_map {keys keys' : List Url} {phs : List (Nat × Phase)} {ph' : Phase} {idx i : Nat}
    {t : List Event} (h : checkTrace keys (phaseOf phs i) idx t = .ok (keys', ph')) :
    ∃ phs', checkTraceMT keys phs idx (t.map fun e => (i, e)) = .ok (keys', phs') ∧ phaseOf phs' i = ph' ∧
      ∀ j, i ≠ j → phaseOf phs' j = phaseOf phs j := by
  generalize hph : phaseOf phs i = ph at h
  fun_induction checkTrace keys ph idx t generalizing phs with
  | case1 => cases h; exact ⟨phs, rfl, hph, fun _ _ => rfl⟩
  | case2 => cases h
  | case3 keys ph idx e t k1 p1 he ih =>
    obtain ⟨phs', hc, hself, hother⟩ := ih (phaseOf_cons_self phs i p1) h
    refine ⟨phs', by simp only [List.map_cons, checkTraceMT, hph, he]; exact hc, hself, fun j hij => ?_⟩
    rw [hother j hij, phaseOf_cons_ne _ _ hij]

/-- Invariant tying a configuration to the validator's state after reading its trace. -/
def MTInv (keys0 : List Url) (c : Config δ ε α) : Prop :=
  ∃ keys phs, checkTraceMT keys0 [] 0 c.trace = .ok (keys, phs) ∧ KeysEq keys c.cache ∧
    (∀ (i : Nat) (s : TState δ ε α), c.threads[i]? = some s → PhaseMatch s (phaseOf phs i)) ∧
    (∀ i : Nat, c.threads[i]? = none → phaseOf phs i = .idle)

theorem MTInv.stepThread {keys0 : List Url} {c : Config δ ε α} (h : MTInv keys0 c) (L : Url → Except ε δ) (i : Nat) :
    MTInv keys0 (c.stepThread L i) := by
  cases hi : c.threads[i]? with
  | none => rw [stepThread_of_none hi]; exact h
  | some s =>
    obtain ⟨keys, phs, hc, hk, hm, hn⟩ := h
    obtain ⟨keys', ph', hce, hk', hm'⟩ := step_checked L hk (hm i s hi) (0 + c.trace.length)
    obtain ⟨phs', hc', hself, hother⟩ := checkTraceMT_map hce
    refine ⟨keys', phs', ?_, ?_, ?_, fun j hj => ?_⟩
    · rw [stepThread_of_get hi, checkTraceMT_append hc]; exact hc'
    · rw [stepThread_of_get hi]; exact hk'
    · exact stepThread_forall hi (hself ▸ hm') fun j sj hij hj => hother j hij ▸ hm j sj hj
    · have hj' : c.threads[j]? = none := by
        simpa only [List.getElem?_eq_none_iff, stepThread_length] using hj
      exact (hother j fun e => by rw [e, hj'] at hi; cases hi).trans (hn j hj')

theorem MTInv.runSched {keys0 : List Url} (L : Url → Except ε δ) (sched : List Nat) :
    ∀ {c : Config δ ε α}, MTInv keys0 c → MTInv keys0 (runSched c L sched) :=
  runSched_induction (fun _ i h => h.stepThread L i) sched

theorem mtinv_init (ps : List (Prog δ ε α)) (C : Cache δ) : MTInv C.keys (Config.init ps C) := by
  refine ⟨C.keys, [], rfl, KeysEq.refl C, fun i s hs => ?_, fun _ _ => rfl⟩
  obtain ⟨p, -, rfl⟩ := init_threads hs
  rfl

/-! ### C17: progress and termination -/

theorem acc_of_step {s : TState δ ε α} (h : ∀ C L, Acc Next (step C L s).2.1) : Acc Next s :=
  ⟨s, fun _ ⟨_, C, L, hs⟩ => hs ▸ h C L⟩

theorem acc_storing {p : Prog δ ε α} (h : Acc Next (TState.run p)) (u : Url) (d : δ) :
    Acc Next (TState.storing u d p : TState δ ε α) :=
  acc_of_step fun _ _ => h

theorem acc_fetching {k : Except ε δ → Prog δ ε α} (h : ∀ r, Acc Next (TState.run (k r))) (u : Url) :
    Acc Next (TState.fetching u k) :=
  acc_of_step fun C L => by
    simp only [step]
    split
    · exact acc_storing (h _) u _
    · exact h _

theorem acc_run (p : Prog δ ε α) : Acc Next (TState.run p : TState δ ε α) := by
  induction p with
  | ret a => exact ⟨_, fun _ ⟨hf, _⟩ => nomatch hf⟩
  | load u k ih =>
    refine acc_of_step fun C L => ?_
    simp only [step]
    split
    · exact ih _
    · exact acc_fetching ih u
  | setPseudo u d k ih => exact acc_of_step fun _ _ => ih _
  | peek u k ih => exact acc_of_step fun _ _ => ih _

theorem next_wf : WellFounded (Next : TState δ ε α → TState δ ε α → Prop) :=
  ⟨fun s => match s with
    | .run p => acc_run p
    | .fetching u _ => acc_fetching (fun _ => acc_run _) u
    | .storing u d _ => acc_storing (acc_run _) u d⟩

def schedPrefix (σ : Nat → Nat) (n : Nat) : List Nat := (List.range n).map σ

theorem runSched_prefix_succ (c : Config δ ε α) (L : Url → Except ε δ) (σ : Nat → Nat) (n : Nat) :
    runSched c L (schedPrefix σ (n + 1)) = (runSched c L (schedPrefix σ n)).stepThread L (σ n) := by
  rw [schedPrefix, List.range_succ, List.map_append, runSched_append]; rfl

/-- Every thread is scheduled again and again. -/
def Fair (n : Nat) (σ : Nat → Nat) : Prop := ∀ i, i < n → ∀ t, ∃ t', t ≤ t' ∧ σ t' = i

theorem finished_stays (c : Config δ ε α) (L : Url → Except ε δ) (σ : Nat → Nat) {i : Nat} {s : TState δ ε α}
    (hf : s.finished = true) {t t' : Nat} (hle : t ≤ t')
    (h : (runSched c L (schedPrefix σ t)).threads[i]? = some s) :
    (runSched c L (schedPrefix σ t')).threads[i]? = some s := by
  induction hle with
  | refl => exact h
  | @step m _ ih =>
    rw [runSched_prefix_succ]
    by_cases hi : σ m = i
    · rw [hi, stepThread_self L ih, step_finished hf]
    · rw [stepThread_other _ L hi]; exact ih

theorem thread_terminates (c : Config δ ε α) (L : Url → Except ε δ) (σ : Nat → Nat) (i : Nat)
    (hfair : ∀ t, ∃ t', t ≤ t' ∧ σ t' = i) (s : TState δ ε α) (t : Nat)
    (ht : (runSched c L (schedPrefix σ t)).threads[i]? = some s) :
    ∃ N s', (runSched c L (schedPrefix σ N)).threads[i]? = some s' ∧ s'.finished = true := by
  induction s using next_wf.induction generalizing t with
  | _ s ih =>
    cases hf : s.finished with
    | true => exact ⟨t, s, ht, hf⟩
    | false =>
      -- when `i` gets its turn it moves down `Next`
      have turn : ∀ t, (runSched c L (schedPrefix σ t)).threads[i]? = some s → σ t = i → _ := fun t ht hi =>
        ih _ ⟨hf, _, L, rfl⟩ (t + 1) (by rw [runSched_prefix_succ, hi, stepThread_self L ht])
      -- until then it keeps its state
      obtain ⟨t', hle, ht'⟩ := hfair t
      obtain ⟨d, rfl⟩ := Nat.exists_eq_add_of_le hle
      clear hle
      induction d generalizing t with
      | zero => exact turn t ht ht'
      | succ d ihd =>
        by_cases hi : σ t = i
        · exact turn t ht hi
        · exact ihd (t + 1) (by rw [runSched_prefix_succ, stepThread_other _ L hi]; exact ht)
            (by rwa [Nat.add_right_comm])

theorem all_terminate (c : Config δ ε α) (L : Url → Except ε δ) (σ : Nat → Nat)
    (hfair : Fair c.threads.length σ) (m : Nat) (hm : m ≤ c.threads.length) :
    ∃ N, ∀ N', N ≤ N' → ∀ i, i < m →
      ∃ s, (runSched c L (schedPrefix σ N')).threads[i]? = some s ∧ s.finished = true := by
  induction m with
  | zero => exact ⟨0, fun _ _ i hi => absurd hi (Nat.not_lt_zero i)⟩
  | succ m ih =>
    obtain ⟨N, hN⟩ := ih (by omega)
    obtain ⟨Nm, s', hs', hf'⟩ := thread_terminates c L σ m (hfair m (by omega)) _ 0
      (List.getElem?_eq_getElem (show m < c.threads.length by omega))
    refine ⟨max N Nm, fun N' hN' i hi => ?_⟩
    by_cases him : i = m
    · subst him
      exact ⟨s', finished_stays c L σ hf' (by omega) hs', hf'⟩
    · exact hN N' (by omega) i (by omega)

theorem allFinished_iff {c : Config δ ε α} :
    c.allFinished = true ↔ ∀ (i : Nat) (s : TState δ ε α), c.threads[i]? = some s → s.finished = true := by
  simp only [Config.allFinished, List.all_eq_true, List.mem_iff_getElem?]
  exact ⟨fun h i s hs => h s ⟨i, hs⟩, fun h s ⟨i, hs⟩ => h i s hs⟩

end SpecModel.Cache
