/-
The side conditions of `Cache/SideConditions.lean` that both C16 and C17 rest on (the package-level cache is
initialised once and only cloned afterwards, no other package-level variable is assigned), evaluated once on the
regenerated facts; the property modules quote them.
-/
import SpecModel.Cache.SideConditions
import SpecModel.Generated.CacheFacts

namespace SpecModel.Cache.Side
open SpecModel

theorem pkgVars_stable : pkgVarsStable Gen.pkgVars = true := by decide +kernel

theorem init_only_once : initOnlyOnce Gen.initCalls = true := by decide +kernel

theorem only_global_cloned : onlyGlobalCloned Gen.cloneCalls = true := by decide +kernel

end SpecModel.Cache.Side
