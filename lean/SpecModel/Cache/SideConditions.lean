/-
Side conditions that tie the cache / loader protocol model (`SpecModel/Cache/Model.lean`) to the Go source.
Each is a decidable predicate over the tables that `harness/cmd/extract` regenerates from /repo's working
tree on every run (`SpecModel/Generated/CacheFacts.lean`); `Props/C16.lean`, `C17.lean`, `C18.lean` discharge
them by `decide` (those that two of them share, once, in `Cache/SideFacts.lean`), so a source change that invalidates an assumption of the model breaks a proof obligation.
-/
namespace SpecModel.Cache.Side

def lookup {β : Type} (k : String) : List (String × β) → Option β
  | [] => none
  | (k', v) :: rest => if k' = k then some v else lookup k rest

/-- Package-level variables are never assigned after initialisation, with the two listed exceptions:
`resCache` (assigned by `initResolutionCache` only) and the debug logger. -/
def pkgVarsStable (vars : List (String × List String)) : Bool :=
  vars.all fun (v, ws) =>
    ws.isEmpty || (v == "resCache" && ws == ["initResolutionCache"]) || (v == "specLogger" && ws == ["debugOptions"])

/-- The variables the model speaks about exist (a rename must not make the conditions vacuous). -/
def pkgVarsPresent (vars : List (String × List String)) : Bool :=
  (lookup "resCache" vars).isSome && (lookup "onceCache" vars).isSome && (lookup "PathLoader" vars).isSome

/-- `initResolutionCache` runs only as the argument of `onceCache.Do`, and does so somewhere. -/
def initOnlyOnce (calls : List (String × String)) : Bool :=
  !calls.isEmpty && calls.all fun (_, how) => how == "once"

/-- The package-level cache object is only ever assigned (by its initialiser), cloned, or guarded:
no function returns it, stores it or passes it on (this is `NoGlobalArg` of the model). -/
def globalNeverEscapes (uses : List (String × String × String)) : Bool :=
  uses.all (fun (v, f, how) =>
    (v == "resCache" && ((how == "assign" && f == "initResolutionCache") || how == "clone")) ||
    (v == "onceCache" && how == "do")) &&
  uses.any (fun (v, _, how) => v == "resCache" && how == "clone")

/-- `ShallowClone` is only applied to the package-level cache. -/
def onlyGlobalCloned (calls : List (String × String)) : Bool :=
  calls.all fun (_, recv) => recv == "resCache"

def headIs (k : String) (uses : List (String × String)) : Bool :=
  match uses with
  | (k', _) :: _ => k' == k
  | [] => false

/-- does function `g` clone its options before any other use, possibly after handing them unchanged to
another function that does (at most `fuel` hops)? -/
def clonesFirst (flow : List (String × Bool × List (String × String))) : Nat → String → Bool
  | 0, _ => false
  | fuel + 1, g =>
    match lookup g flow with
    | none => false
    | some (_, uses) =>
      headIs "clone" uses ||
      (match uses with
       | [("pass", callee)] => clonesFirst flow fuel callee
       | _ => false)

/-- Every exported function that receives a caller's `*ExpandOptions` clones it (`optionsOrDefault`) before
reading or writing anything through the pointer. -/
def callerOptionsCloned (flow : List (String × Bool × List (String × String))) : Bool :=
  flow.all fun (f, exported, _) => !exported || clonesFirst flow 4 f

/-- Lock discipline of `simpleCache`, for EVERY field of the receiver other than the lock: reads under the read
or write lock, writes under the write lock only (a write under the read lock races with the other readers);
the one unlocked access is the `len` used as a capacity hint in `ShallowClone`. -/
def lockDiscipline (acc : List (String × String × String × String)) : Bool :=
  !acc.isEmpty &&
  acc.all fun (m, kind, lock, _field) =>
    (kind == "read" && (lock == "R" || lock == "W")) ||
    (kind == "write" && lock == "W") ||
    (kind == "len" && m == "ShallowClone")

/-- `Get` reads, `Set` writes: both methods touch the map (under lock, by `lockDiscipline`). -/
def getSetPresent (acc : List (String × String × String × String)) : Bool :=
  acc.any (fun (m, kind, _, f) => m == "Get" && kind == "read" && f == "store") &&
  acc.any (fun (m, kind, _, f) => m == "Set" && kind == "write" && f == "store")

/-- `schemaLoader.load` is lookup-before-fetch-then-store under one key. -/
def loadProtocol (shape : List String) : Bool :=
  shape == ["get:normalized", "fetch:normalized", "unmarshal:&doc", "set:normalized:doc"]

/-- The direct cache accesses outside `load` are exactly the ones the model has constructors for:
`baseForRoot` (peek, setPseudo), `setSchemaID` (setPseudo), `transitiveResolver` (peek). -/
def directAccessesModelled (sites : List (String × String)) : Bool :=
  sites.all fun s =>
    s == ("baseForRoot", "get") || s == ("baseForRoot", "set") ||
    s == ("schemaLoader.setSchemaID", "set") || s == ("schemaLoader.transitiveResolver", "get")

end SpecModel.Cache.Side
