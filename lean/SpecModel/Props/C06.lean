/-
C06 — Encoding is well-formed, collision-free and deterministic.

Model: `SpecModel/Codec` (`norm K = decode as kind K, then encode`; tied to the Go codecs by the `norm`
correspondence on every run).  What is proved here, for all inputs:

* determinism of the one place where Go's map iteration order could leak into the bytes — the hand-written
  `SchemaProperties.MarshalJSON`: `OrderSchemaItems.Less` (x-order, then name) is asymmetric, transitive and
  total on members with distinct names, so the sorted member list is the same for every arrival order
  (`properties_order_deterministic`), it is ordered by x-order then name (`properties_sorted`);
* Go maps (`map[string]T`, extensions, free-form payloads) are printed with strictly increasing keys, hence
  never with the same member twice (`go_map_keys_strictly_increasing`, `payload_no_duplicate_member`);
* the statically named members of a kind cannot collide: the member names of all parts that a kind's
  `MarshalJSON` concatenates are pairwise distinct, none of them looks like a vendor extension, and each part
  that is encoded is also decoded (regenerated struct tables and part lists, `decide`);
* whole documents of every kind: whatever `norm K j` returns has no object, at any depth, carrying a member name
  twice (`encoding_has_no_duplicate_member`, from `Codec/NoDup.lean`, for the tables that satisfy `tables_ok`).
Everything else of the encoder is Go's `encoding/json` on structs (modelled, tied by correspondence).
-/
import SpecModel.Codec.SortLemmas
import SpecModel.Codec.SideConditions
import SpecModel.Codec.NoDup
import SpecModel.KernelEval

namespace SpecModel.Props.C06
open SpecModel SpecModel.Codec

/-- Whatever order Go's map iteration hands the properties over in, `SchemaProperties.MarshalJSON` emits the
same member list. -/
theorem properties_order_deterministic {l₁ l₂ : List (String × Json)} (hp : l₁.Perm l₂)
    (hn : (l₁.map (·.1)).Nodup) : sortBy lessItem l₁ = sortBy lessItem l₂ :=
  sortBy_lessItem_perm_invariant hp hn

example : sortBy lessItem [("b", .obj [("x-order", .num 1)]), ("a", .obj [("x-order", .num 1)]), ("c", .obj [])]
        = sortBy lessItem [("c", .obj []), ("a", .obj [("x-order", .num 1)]), ("b", .obj [("x-order", .num 1)])] :=
  properties_order_deterministic
    ((List.Perm.swap _ _ _).trans (List.perm_append_comm (l₁ := [_, _]) (l₂ := [_]))) (by decide)

/-- … and that list is ordered by `x-order`, then by name (strictly: each member precedes every later one). -/
theorem properties_sorted {l : List (String × Json)} (hn : (l.map (·.1)).Nodup) :
    (sortBy lessItem l).Pairwise (fun x y => lessItem x y = true) ∧ (sortBy lessItem l).Perm l :=
  ⟨sortBy_lessItem_pairwise hn, sortBy_perm lessItem l⟩

example : (sortBy lessItem [("b", .obj [("x-order", .num 1)]), ("a", .obj [("x-order", .num 1)]), ("c", .obj [])]).map (·.1)
    = ["a", "b", "c"] := by decide

/-- the ordering relation itself: x-order first (members without one last), ties broken by name -/
theorem less_is_xorder_then_name (a b : String × Json) :
    lessItem a b = (match xOrder a.2, xOrder b.2 with
      | some i, some j => if i == j then decide (a.1 < b.1) else decide (i < j)
      | some _, none => true
      | none, some _ => false
      | none, none => decide (a.1 < b.1)) := by
  unfold lessItem; rfl

theorem less_asymm (a b : String × Json) : lessItem a b = true → lessItem b a = true → False := lessItem_asymm a b
theorem less_trans (a b c : String × Json) : lessItem a b = true → lessItem b c = true → lessItem a c = true :=
  lessItem_trans a b c
theorem less_total (a b : String × Json) (h : a.1 ≠ b.1) : lessItem a b = true ∨ lessItem b a = true :=
  lessItem_total a b h

/-- A Go map is printed with strictly increasing keys: in particular no member name occurs twice. -/
theorem go_map_keys_strictly_increasing (ms : List (String × Json)) :
    KeysSorted (toGoMap ms) ∧ ((toGoMap ms).map (·.1)).Nodup :=
  ⟨toGoMap_sorted ms, keysSorted_nodup (toGoMap_sorted ms)⟩

example : (toGoMap [("b", .num 1), ("a", .num 2), ("b", .num 3)]).map (·.1) = ["a", "b"] := by decide

/-- Free-form payloads are printed in Go's normal form: every object inside has strictly increasing keys. -/
theorem payload_no_duplicate_member {j j' : Json} (h : normAny j = .ok j') : GoAny j' := normAny_goAny j j' h

/-! ### Whole documents: no member name twice, at any depth

`norm K` is the model of "decode as kind K, then encode" for all seventeen kinds (tied to the Go codecs by the
`norm` correspondence).  The theorem is proved once for any tables satisfying `TablesOK`; `tables_ok` discharges
`TablesOK` for the tables REGENERATED from /repo on this run (`decide`): member names of every struct table
pairwise distinct; for every kind, the names of all parts its MarshalJSON concatenates pairwise distinct, none
of them an `x-` name, at most one extensions part; the same for the hand-written kinds (schema, response,
security scheme).  A source change that makes two parts of a kind emit the same member breaks `tables_ok`. -/

/-- The conditions on the tables are evaluated together: the kernel then computes and compares the member names of
each table, and the part names of each kind, once for all of them; evaluated apart they cost twice as much. -/
theorem tables_checked :
    tablesNodup Gen.structs = true ∧ kindsPartsOK Gen.kinds = true ∧ customKindsOK = true ∧
      Side.partsDisjoint Gen.kinds = true ∧ Side.partsPaired Gen.kinds = true := by
  simp only [kindsPartsOK, customKindsOK, partsOK, Side.partsDisjoint, isExtKey, Side.isExtKey, toList_eq_fast]
  decide +kernel

theorem tables_ok : TablesOK := ⟨tables_checked.1, tables_checked.2.1, tables_checked.2.2.1⟩

/-- **Every encoding of a decoded value is collision-free**: whatever `norm K j` returns has no object, at any
depth, carrying the same member name twice. -/
theorem encoding_has_no_duplicate_member (k : String) (j j' : Json) (h : norm k j = .ok j') : ND j' :=
  norm_nd tables_ok k j j' h

/-- `ND` says what it should on a small example, and is not trivially true -/
example : ND (.obj [("a", .arr [.obj [("x", .null), ("y", .null)]]), ("b", .num 1)]) := by
  simp [ND, NDL, NDM]
example : ¬ ND (.obj [("a", .obj [("x", .null), ("x", .null)])]) := by
  simp [ND, NDM]

/-! ### Side conditions on the regenerated tables -/

theorem side_parts_disjoint : Side.partsDisjoint Gen.kinds = true := tables_checked.2.2.2.1
theorem side_parts_paired : Side.partsPaired Gen.kinds = true := tables_checked.2.2.2.2

/-- model-level test (a test, not a theorem): a tuple with no position is still written as a tuple — the input class
behind seed C06k and fix 21bfdbf -/
example : norm "schema" (.obj [("type", .str "array"), ("items", .arr []), ("additionalItems", .bool false)])
    = .ok (.obj [("type", .str "array"), ("items", .arr []), ("additionalItems", .bool false)]) := by decide +kernel

end SpecModel.Props.C06
