/-
C03 (part: spelling of cut points) — `denormalizeRef` followed by `normalizeURI` gives the canonical target
back, and the inputs on which it does not.

Model: SpecModel/Url/Normalizer.lean (`rebase`, `denormalizeRef`, `normalizeURI`), `id == ""` case.
`denormalizeRef_eq` is the first step of the main proof and a property in its own right.
-/
import SpecModel.Url.Lemmas
import SpecModel.Props.C12

namespace SpecModel.Props.C03
open SpecModel.Url SpecModel.Url.Path
open SpecModel.Props.C12 (CanonBase)

/-- A canonical reference into the same site as the base: what the expander holds for a `$ref` it has
normalised (`normalizeURI`, then `MustCreateRef`). -/
structure CanonTarget (c base : URL) : Prop where
  scheme : c.scheme = base.scheme
  host : c.host = base.host
  abs : isAbs c.path = true
  clean : clean c.path = c.path
  query : c.query = ""
  normal : normalizeURL c = c
  canonical : (Ref.new c).isCanonical = true

instance (c base : URL) : Decidable (CanonTarget c base) :=
  decidable_of_iff (c.scheme = base.scheme ∧ c.host = base.host ∧ isAbs c.path = true ∧ clean c.path = c.path ∧
      c.query = "" ∧ normalizeURL c = c ∧ (Ref.new c).isCanonical = true)
    ⟨fun ⟨h1, h2, h3, h4, h5, h6, h7⟩ => ⟨h1, h2, h3, h4, h5, h6, h7⟩,
      fun ⟨h1, h2, h3, h4, h5, h6, h7⟩ => ⟨h1, h2, h3, h4, h5, h6, h7⟩⟩

/-- The inputs on which `rebase`'s tests are sound:
* the path of the root document matches the target's path UP TO A PATH BOUNDARY (`matchesDoc`: equal, or
  followed by `/`) only if they are equal (or the root document's path is `/`) — i.e. the root document is not
  itself a "directory" above the target;
* the target's path is `/` only if the root document's is. -/
def NoPrefixTrap (c base : URL) : Prop :=
  (matchesDoc c.path base.path = true → c.path = base.path ∨ base.path = "/") ∧
  (c.path = "/" → base.path = "/")

instance (c base : URL) : Decidable (NoPrefixTrap c base) := by unfold NoPrefixTrap; infer_instance

/-- What `denormalizeRef` returns for a canonical target. -/
theorem denormalizeRef_eq {base c : URL} (hb : CanonBase base) (hc : CanonTarget c base) :
    denormalizeRef c base =
      normalizeURL (if isAbs (rebasePath c.path base.path) then
                      ⟨base.scheme, base.host, rebasePath c.path base.path, "", c.fragment⟩
                    else ⟨"", "", rebasePath c.path base.path, "", c.fragment⟩) := by
  have hnew : Ref.new c = Ref.classify c := by unfold Ref.new; rw [hc.normal]
  have hcan : (Ref.classify c).isCanonical = true := hnew ▸ hc.canonical
  have hurl : (Ref.classify c).url = c := rfl
  have hsch : c.scheme ≠ "" := by rw [hc.scheme]; exact hb.scheme
  have hpne : c.path ≠ "" := ne_empty_of_isAbs hc.abs
  have hcond : ¬ ((Ref.classify c).url.isEmpty = true ∨ (Ref.classify c).isRoot = true ∨
      (Ref.classify c).hasFragmentOnly = true) := by
    rintro (h | h | h)
    · rw [hurl] at h
      simp [URL.isEmpty, hsch] at h
    · simp [Ref.isRoot, hcan] at h
    · simp [Ref.classify, hpne] at h
  unfold denormalizeRef denormalizeRefId
  rw [hnew, if_neg hcond]
  simp only [rebase, hurl, hc.scheme, hc.host, hc.query, hb.query]
  simp [Ref.new, Ref.classify]

example : CanonBase ⟨"http", "h.com", "/r/root.json", "", ""⟩ ∧
    CanonTarget ⟨"http", "h.com", "/other/doc.json", "", "/definitions/a"⟩ ⟨"http", "h.com", "/r/root.json", "", ""⟩ ∧
    denormalizeRef ⟨"http", "h.com", "/other/doc.json", "", "/definitions/a"⟩ ⟨"http", "h.com", "/r/root.json", "", ""⟩
      = ⟨"http", "h.com", "/other/doc.json", "", "/definitions/a"⟩ := by
  decide +kernel

/-- A canonical target, written relative to the root document by `denormalizeRef`, resolves
back to itself — provided the string-prefix tests of `rebase` are not fooled. -/
theorem denormalize_resolves {base c : URL} (hb : CanonBase base) (hc : CanonTarget c base)
    (hx : NoPrefixTrap c base) : normalizeURI (denormalizeRef c base) base = c := by
  rw [denormalizeRef_eq hb hc]
  obtain ⟨bs, bh, bp, bq, bf⟩ := base
  obtain ⟨cs, ch, P, cq, f⟩ := c
  obtain ⟨hcs, hch, hca, hcc, hcq, hcn, hccan⟩ := hc
  obtain ⟨-, hba, -, hbq, -⟩ := hb
  simp only at hcs hch hca hcc hcq hcn hccan hx hba hbq ⊢
  subst hcs hch hcq hbq
  have hcol : collapse P = P := congrArg URL.path hcn
  by_cases heq : P = bp
  · -- the target is the root document itself: fragment-only reference
    subst heq
    rw [rebasePath_self, if_neg (by decide), normalizeURL_relative _ _ (by decide), C12.fragment_only_is_base _ _ rfl rfl rfl]
  · -- otherwise the path is cut at the directory of the root document
    rw [rebasePath_eq_trim fun hp => (hx.1 hp).resolve_left heq]
    by_cases hv : hasPrefix P (rebaseDir bp) = true
    · -- under the directory of the root document: relative reference
      obtain ⟨r, rfl⟩ := (hasPrefix_iff _ _).mp hv
      obtain ⟨hna, hcr, hne, hj⟩ := rebased_path hba hcc hcol (fun hP => heq (hP.trans (hx.2 hP).symm)) rfl
      rw [trimPrefix_append, if_neg (by simp [hna]), normalizeURL_relative _ _ hcr, normalizeURI_relative,
        if_neg (by simp [hna]), if_pos hne, hj]
    · -- elsewhere on the same site: the absolute reference is kept
      rw [trimPrefix_not (by simpa using hv), if_pos hca, hcn]
      unfold normalizeURI
      rw [cleanPath_of_fixed hcc (ne_dot_of_isAbs hca), if_pos hccan]

example : CanonBase ⟨"file", "", "/r/root.json", "", ""⟩ ∧
    CanonTarget ⟨"file", "", "/r/sub/other.json", "", "/definitions/a"⟩ ⟨"file", "", "/r/root.json", "", ""⟩ ∧
    NoPrefixTrap ⟨"file", "", "/r/sub/other.json", "", "/definitions/a"⟩ ⟨"file", "", "/r/root.json", "", ""⟩ ∧
    denormalizeRef ⟨"file", "", "/r/sub/other.json", "", "/definitions/a"⟩ ⟨"file", "", "/r/root.json", "", ""⟩
      = ⟨"", "", "sub/other.json", "", "/definitions/a"⟩ := by
  decide +kernel

/-! ### Where it fails (all reproduced against the real `denormalizeRef` / `normalizeURI`) -/

/-- D10 (repaired by 3973529): a document whose name merely EXTENDS the root document's name
(`/r/root.jsonx`, `/r/root.json.d/s.json` beside `/r/root.json`) is no longer taken for the root document:
it is written relative to the root's directory and resolves back. (Before the repair `rebase` matched the
root's path as a plain string prefix and wrote `x#/definitions/a`, which resolves to `/r/x`.) -/
theorem extended_name_is_another_document :
    let base : URL := ⟨"file", "", "/r/root.json", "", ""⟩
    let c : URL := ⟨"file", "", "/r/root.jsonx", "", "/definitions/a"⟩
    let d : URL := ⟨"file", "", "/r/root.json.d/s.json", "", "/definitions/a"⟩
    CanonBase base ∧ CanonTarget c base ∧ NoPrefixTrap c base ∧ NoPrefixTrap d base ∧
    denormalizeRef c base = ⟨"", "", "root.jsonx", "", "/definitions/a"⟩ ∧
    normalizeURI (denormalizeRef c base) base = c ∧
    normalizeURI (denormalizeRef d base) base = d := by
  intro base c d
  obtain ⟨hb, hc, hd, hxc, hxd, he⟩ : CanonBase base ∧ CanonTarget c base ∧ CanonTarget d base ∧
      NoPrefixTrap c base ∧ NoPrefixTrap d base ∧ denormalizeRef c base = ⟨"", "", "root.jsonx", "", "/definitions/a"⟩ := by
    decide +kernel
  exact ⟨hb, hc, hxc, hxd, he, denormalize_resolves hb hc hxc, denormalize_resolves hb hd hxd⟩

/-- The same test at an element boundary: a target *below* the root document's path
(`http://h.com/api/v1.json` against the root `http://h.com/api`) is written `http://h.com/v1.json`. -/
theorem prefix_trap_boundary :
    let base : URL := ⟨"http", "h.com", "/api", "", ""⟩
    let c : URL := ⟨"http", "h.com", "/api/v1.json", "", "/definitions/a"⟩
    CanonBase base ∧ CanonTarget c base ∧
    denormalizeRef c base = ⟨"http", "h.com", "/v1.json", "", "/definitions/a"⟩ ∧
    normalizeURI (denormalizeRef c base) base ≠ c := by
  intro base c
  decide +kernel

/-- A target at the site root (`http://h.com/#/definitions/a`) against a root document elsewhere is written
`#/definitions/a`, i.e. as a reference into the root document itself. -/
theorem root_path_trap :
    let base : URL := ⟨"http", "h.com", "/x.json", "", ""⟩
    let c : URL := ⟨"http", "h.com", "/", "", "/definitions/a"⟩
    CanonBase base ∧ CanonTarget c base ∧
    denormalizeRef c base = ⟨"", "", "", "", "/definitions/a"⟩ ∧
    normalizeURI (denormalizeRef c base) base = ⟨"http", "h.com", "/x.json", "", "/definitions/a"⟩ ∧
    normalizeURI (denormalizeRef c base) base ≠ c := by
  intro base c
  decide +kernel

/-- A target in a document that differs from the root document by its query stays absolute (before the repair
61036d6 in /repo `rebase` compared scheme and host only and this target was written `other.json#/definitions/a`,
its query lost: found by the reference-graph family with documents told apart by a query). -/
theorem other_query_stays_absolute :
    denormalizeRef ⟨"http", "h.com", "/r/other.json", "v=2", "/definitions/a"⟩ ⟨"http", "h.com", "/r/root.json", "", ""⟩
      = ⟨"http", "h.com", "/r/other.json", "v=2", "/definitions/a"⟩ := by decide +kernel

/-- the same path as the root document, another query: not the root document -/
theorem same_path_other_query_is_another_document :
    denormalizeRef ⟨"http", "h.com", "/r/root.json", "v=2", "/definitions/a"⟩ ⟨"http", "h.com", "/r/root.json", "", ""⟩
      = ⟨"http", "h.com", "/r/root.json", "v=2", "/definitions/a"⟩ := by decide +kernel

end SpecModel.Props.C03
