/-
C09 — Skip-schemas mode.

In skip-schemas mode the expander follows the references of parameters, responses and path items and keeps
every schema reference, rewriting its text so that it reads the same from the root location.  In the abstract
graphs a reference IS its canonical target, so "rewritten only as far as needed to designate the same target"
is: the output is a partial unfolding (`Exp`) of the input in which no schema key was followed.

* `run_skip_validated` (per run): what the compiled checker accepts with the schema keys as `keep` list is a
  partial unfolding, hence meaning-preserving (`Equiv`, via C02), and a kept key is still a reference leaf;
* `skip_then_full`: partial unfoldings compose — expanding the skip result fully is a partial unfolding of
  the original input, so it denotes the same trees as a direct full expansion (both `Equiv` to the input);
* the textual side — the rewritten `$ref` resolves back to the same canonical target from the root location,
  fragment-only when it points into the root — is `C03.denormalize_resolves` / `denormalizeRef_eq`
  (`Props/C03Denorm.lean`), about the model of `denormalizeRef` tied by the `denorm` correspondence.
-/
import SpecModel.Props.ExpandCore
import SpecModel.Expand.Check
import SpecModel.Expand.SideFacts
import SpecModel.Props.C03Denorm

namespace SpecModel.Props.C09
open SpecModel.Expand SpecModel.Props

variable {K L : Type} [DecidableEq K] [DecidableEq L]

theorem run_skip_validated {W W' : World K L} {keep : List K} {n m : Nat} {ks : List K} {t t' : Tree K L}
    (hw : checkWorld W W' n ks = true) (hout : ∀ k, k ∉ ks → W k = none ∧ W' k = none)
    (he : checkExp W keep m t t' = true) : Exp W t t' ∧ Equiv W t W' t' :=
  ⟨checkExp_sound he, checkExp_equiv hw hout he⟩

/-- a schema key handed over as "keep" is not followed: where the input has the reference, so has the output -/
theorem kept_reference_stays {W : World K L} {keep : List K} {n : Nat} {k : K} {t' : Tree K L}
    (hk : k ∈ keep) (h : checkExp W keep n (.ref k) t' = true) : t' = .ref k := checkExp_keeps hk h

/-- full expansion after skip expansion denotes the same as the input (and so the same as a direct full
expansion, which also does, by C02) -/
theorem skip_then_full {W W₁ W₂ : World K L} {t t₁ t₂ : Tree K L}
    (h₁ : Equiv W t W₁ t₁) (h₂ : Equiv W₁ t₁ W₂ t₂) : Equiv W t W₂ t₂ := fun n => (h₁ n).trans (h₂ n)

example : checkExp ExpandCore.Wx [0] 40 (.node "root" [.ref 0, .ref 2] : Tree Nat String)
    (.node "root" [.ref 0, .node "c" [.node "d" []]]) = true := by decide +kernel
example : checkExp ExpandCore.Wx [0] 40 (.node "root" [.ref 0, .ref 2] : Tree Nat String)
    (.node "root" [.node "a" [.ref 1, .ref 2], .node "c" [.node "d" []]]) = false := by decide +kernel


/-! ### Side conditions on the shape of expander.go (regenerated facts, evaluated in `Expand/SideFacts.lean`) -/

/-- every schema keyword that can hold a sub-schema (regenerated struct table of SchemaProps) is a position
`expandSchema` / `expandItems` recurse into (regenerated from their AST), and conversely -/
theorem side_positions_complete :
    SpecModel.Expand.Side.positionsComplete SpecModel.Gen.structs SpecModel.Gen.expandPositions = true :=
  Side.positions_complete

theorem side_sections_complete : SpecModel.Expand.Side.sectionsComplete SpecModel.Gen.specSections = true :=
  Side.sections_complete

theorem side_operations_complete :
    SpecModel.Expand.Side.operationsComplete SpecModel.Gen.pathItemOperations SpecModel.Gen.pathItemOperationFields = true :=
  Side.operations_complete

end SpecModel.Props.C09
