/-
C01 — JSON round-trip is lossless for the whole Swagger 2.0 vocabulary.

Model: `SpecModel/Codec` (`norm K`), tied to the Go codecs by the `norm` correspondence on every run.

Proved here
* over the REGENERATED tables against the PINNED vocabulary (`decide`): every keyword the standards define
  for a kind is a member name of a part that the kind's decoder fills and its encoder emits
  (`vocabulary_covered`); every kind that may carry `x-` members has the extensions part on both sides, except
  exactly `externalDocs` and `xml` (known finding K-C01-1, `extension_gaps`); unknown schema members have the
  ExtraProps part (`unknown_members_kept`); numeric validations are pointers, so zero is not "empty"
  (`zero_validations_survive`); every encoded part is decoded and conversely (`parts_paired`);
* for all inputs, about the model: a free-form payload in Go's printing form comes back exactly
  (`payload_exact`); the members of a Go map survive (`go_map_members_kept`).
* for WHOLE DOCUMENTS of every kind (`round_trip_up_to_member_order`, from `Codec/Perm.lean`): the
  codec does not depend on the order in which the members of an object are written, at any depth:

      norm K c = ok c  →  Tidy c  →  Tidy j  →  Eqv c j  →  norm K j = ok c

  i.e. if ONE ordering `c` of a document is reproduced exactly by decode+encode, then every reordering `j` of it
  decodes and encodes to `c`: the round trip loses nothing but member order (which JSON values do not have).
  `Tidy`: no object with two members of the same name and no member name that is a case variant of a keyword (two
  such names would be read into the same Go field, and then order does matter). With C07 (`Clean` outputs are
  fixed points) this gives `reorderings_of_outputs_round_trip`: every reordering of every clean output of the
  codec round-trips to that output.
Which documents have such an ordering `c` — the syntactic normal form of the property: required members present,
no null members, no empty optional strings/arrays/objects, no explicit defaults — is decided per run by the oracle
of the harness on generated normal-form documents; its failures on the unchanged tree are the two known findings.
-/
import SpecModel.Codec.Lemmas
import SpecModel.Codec.SideConditions
import SpecModel.Codec.Perm
import SpecModel.Codec.Fuel
import SpecModel.Props.C07

namespace SpecModel.Props.C01
open SpecModel SpecModel.Codec

/-! ### the vocabulary is carried (regenerated tables, pinned vocabulary) -/

/-- The four facts read the same tables and compare the same names: evaluated together they cost the kernel a
quarter less than one by one (what it has evaluated it remembers for one declaration only). -/
theorem vocabulary_checked : Side.coverage Gen.kinds Gen.vocab = true ∧
    Side.extensionGaps Gen.kinds Gen.vocab = ["externalDocs", "xml"] ∧
    Side.keepsUnknown Gen.kinds Gen.vocab = true ∧ Side.zeroValidationsSurvive Gen.structs = true := by
  decide +kernel

theorem vocabulary_covered : Side.coverage Gen.kinds Gen.vocab = true := vocabulary_checked.1

/-- exactly the two kinds of known finding K-C01-1 lack the extensions part -/
theorem extension_gaps : Side.extensionGaps Gen.kinds Gen.vocab = ["externalDocs", "xml"] := vocabulary_checked.2.1

theorem unknown_members_kept : Side.keepsUnknown Gen.kinds Gen.vocab = true := vocabulary_checked.2.2.1

theorem zero_validations_survive : Side.zeroValidationsSurvive Gen.structs = true := vocabulary_checked.2.2.2

theorem parts_paired : Side.partsPaired Gen.kinds = true := C06.side_parts_paired

/-- non-vacuity: the pinned vocabulary is not empty and names the kinds of the statement -/
example : (Gen.vocab.map (·.1)).length = 17 ∧ "schema" ∈ Gen.vocab.map (·.1) ∧ "header" ∈ Gen.vocab.map (·.1) := by
  decide +kernel

/-! ### free-form payloads and maps -/

/-- a payload as Go prints it (sorted keys, exactly representable numbers) round-trips to itself -/
theorem payload_exact {j : Json} (h : GoAny j) : normAny j = .ok j := normAny_of_goAny j h

example : GoAny (.obj [("a", .arr [.null, .num 0, .obj []]), ("b", .str "")]) := by
  simp [GoAny, GoAnyL, GoAnyM, KeysSorted, floatExact]

/-- a member of a Go map survives decode+encode with its value, when its name occurs once -/
theorem go_map_members_kept (ms : List (String × Json)) (hn : (ms.map (·.1)).Nodup) :
    ∀ m, m ∈ toGoMap ms ↔ m ∈ ms := toGoMap_mem_iff ms hn

example : (toGoMap [("b", .num 1), ("a", .num 2)]).map (·.1) = ["a", "b"] := by decide


/-! ### Whole documents: the round trip is lossless up to member order -/

/-- reordering the input never changes a successful result -/
theorem result_independent_of_member_order (k : String) (c j r : Json) (h : norm k c = .ok r) (hc : Tidy c)
    (hj : Tidy j) (he : Eqv c j) : norm k j = .ok r :=
  norm_of_normF (normF_eqv _ _ _ _ he hc hj r h)

/-- **If one ordering of a document is reproduced by decode+encode, every reordering of it (of the members of any
of its objects, at any depth) decodes and encodes to that ordering.** -/
theorem round_trip_up_to_member_order (k : String) (c j : Json) (hfix : norm k c = .ok c) (hc : Tidy c)
    (hj : Tidy j) (he : Eqv c j) : norm k j = .ok c :=
  result_independent_of_member_order k c j c hfix hc hj he

/-- with C06 and C07: every reordering of a clean output of the codec round-trips to that output -/
theorem reorderings_of_outputs_round_trip (k : String) (j₀ c j : Json) (h : norm k j₀ = .ok c) (hclean : Clean c)
    (hj : Tidy j) (he : Eqv c j) : norm k j = .ok c :=
  round_trip_up_to_member_order k c j (C07.encoding_is_idempotent k j₀ c h hclean)
    (tidy_of_clean_nd c hclean (C06.encoding_has_no_duplicate_member k j₀ c h)) hj he

/-- non-vacuity: a reordering, at two depths, of a document -/
example : Eqv (.obj [("a", .num 1), ("b", .obj [("p", .null), ("q", .str "s")])])
              (.obj [("b", .obj [("q", .str "s"), ("p", .null)]), ("a", .num 1)]) := by
  have inner : Eqv (.obj [("p", .null), ("q", .str "s")]) (.obj [("q", .str "s"), ("p", .null)]) :=
    ⟨⟨⟨.null, .tail _ (.head _), eqv_null⟩, ⟨.str "s", .head _, eqv_str "s"⟩, trivial⟩, by simp [keysOf]⟩
  exact ⟨⟨⟨.num 1, .tail _ (.head _), eqv_num 1⟩, ⟨_, .head _, inner⟩, trivial⟩, by simp [keysOf]⟩

/-- `Eqv` is not trivially true: arrays keep their order -/
example : ¬ Eqv (.arr [.num 1, .num 2]) (.arr [.num 2, .num 1]) := eqv_arr_swap_false

/-- model-level test (a test, not a theorem): `x-order` is read to sort the properties — a numeral in a string
counts like the number — and is written back as it was found (the input class behind seed C01k) -/
example : norm "schema" (.obj [("properties", .obj [("a", .obj [("x-order", .num 3)]), ("b", .obj [("x-order", .str "2")])])])
    = .ok (.obj [("properties", .obj [("b", .obj [("x-order", .str "2")]), ("a", .obj [("x-order", .num 3)])])]) := by
  decide +kernel

end SpecModel.Props.C01
