/-
C15 — Pointer lookups on typed documents agree with their JSON form.

A typed lookup `/tok` on a value of kind K goes through K's hand-written `JSONLookup`, which consults a chain
of parts (extensions map, then each embedded props struct by JSON name through the name provider).  The JSON
form of the same value is the concatenation of the parts K's `MarshalJSON` emits.  The two agree on every
member iff every emitted part is consulted.  Both lists are REGENERATED from the source (go/ast) on every run.

* `lookup_consults_every_encoded_part`: the only (kind, part) pairs that are emitted but never consulted are
  `schema/Ref` (`$ref`, which the property excludes) and `schema/Schema` (`$schema`: known finding K-C15-1);
* `kinds_without_custom_lookup`: exactly `contact` and `license` rely on reflection;
* on the model: a member the kind emits from a consulted struct part is found under the same name
  (`member_found_by_chain`).
* a MODEL of the hand-written `JSONLookup` methods, one token at a time, on the encoding of the typed value
  (`Codec/Lookup.lean`: `lookupTok`, driven by the regenerated chains, tied to the methods by the `lookup`
  correspondence on every run), and the theorems that it finds, with its value, every present member the kind's
  encoder can emit: `regular_kinds_find_their_members` (any member claimed by a live part — the descriptors of
  C06's proof; `normConcatKind_claims` shows every emitted member is claimed), `schema_finds_its_members` (declared
  keywords, extensions, unknown keywords; not `$ref`, not `$schema`), `responses_find_their_members` (`default`,
  canonical status codes, extensions), `paths_find_their_members`. Side conditions on the regenerated chains by
  `decide`.
The agreement for whole pointers on real documents (several tokens, name provider, ~0/~1 unescaping, array
indices) is decided per run by the harness oracle over every pointer of every generated document.
-/
import SpecModel.Codec.SideConditions
import SpecModel.Codec.Lookup
import SpecModel.Props.C06

namespace SpecModel.Props.C15
open SpecModel SpecModel.Codec

theorem lookup_consults_every_encoded_part :
    Side.lookupGaps Gen.kinds = [("schema", "Ref"), ("schema", "Schema")] := by decide +kernel

theorem kinds_without_custom_lookup : Side.noLookup Gen.kinds = ["contact", "license"] := by decide +kernel

/-- model of the chain walk of a `JSONLookup`: the first consulted struct part that has a field of that JSON
name answers -/
def chainFinds (structs : List (String × List Field)) (chain : List String) (tok : String) : Option String :=
  chain.find? fun p => (jsonNames (lookupStruct structs p)).contains tok

/-- if the encoder emits member `tok` from struct part `p`, and `p` is consulted, then the chain walk finds a
part for `tok` — and, member names being pairwise distinct across parts (C06 `side_parts_disjoint`), it is a
part holding the same field -/
theorem member_found_by_chain (structs : List (String × List Field)) (chain : List String) (p tok : String)
    (hp : p ∈ chain) (ht : tok ∈ jsonNames (lookupStruct structs p)) :
    ∃ q, chainFinds structs chain tok = some q ∧ q ∈ chain ∧ tok ∈ jsonNames (lookupStruct structs q) := by
  unfold chainFinds
  cases hq : chain.find? fun p => (jsonNames (lookupStruct structs p)).contains tok with
  | none => exact absurd (List.contains_iff_mem.mpr ht) (List.find?_eq_none.mp hq p hp)
  | some q => exact ⟨q, rfl, List.mem_of_find?_eq_some hq, by simpa using List.find?_some hq⟩

example : chainFinds Gen.structs ["SchemaProps", "SwaggerSchemaProps"] "discriminator" = some "SwaggerSchemaProps" := by
  decide +kernel

/-! ### the lookup model finds what the encoder emits -/

theorem keywords_not_numerals : keywordsNotNumerals = true := by
  simp only [keywordsNotNumerals, atoi, toList_eq_fast]
  decide +kernel

/-- every kind with a hand-written lookup other than schema, responses and paths consults all its live parts -/
theorem chains_cover_parts :
    (Gen.kinds.filter fun ki => !ki.lookupChain.isEmpty && !(["schema", "responses", "paths"].contains ki.kind)).all
      (fun ki => structCovered ki && extCovered ki) = true := by decide +kernel

/-! the chains of the three kinds whose lookup is modelled by hand consult the parts the model relies on -/

theorem schema_chain : ∃ ki, lookupKind Gen.kinds "schema" = some ki ∧
    ["Extensions", "ExtraProps", "SchemaProps", "SwaggerSchemaProps"].all ki.lookupChain.contains = true := by
  decide +kernel
theorem responses_chain : ∃ ki, lookupKind Gen.kinds "responses" = some ki ∧
    ["Default", "Extensions", "StatusCodeResponses"].all ki.lookupChain.contains = true := by decide +kernel
theorem paths_chain : ∃ ki, lookupKind Gen.kinds "paths" = some ki ∧
    ["Paths", "Extensions"].all ki.lookupChain.contains = true := by decide +kernel

theorem regular_kinds_find_their_members {k : String} {ki : KindInfo} (hk : lookupKind Gen.kinds k = some ki)
    (hcustom : ki.lookupChain.isEmpty = false) (hreg : (["schema", "responses", "paths"].contains ki.kind) = false)
    {ms : List (String × Json)} {tok : String} {v : Json} (hl : lookupKey ms tok = some v) (hne : tok ≠ "$ref")
    {d : PartDesc} (hd : d ∈ (liveParts ki).map descOf) (hc : claims d tok) : lookupTok k ms tok = some v := by
  have hmem : ki ∈ Gen.kinds := List.mem_of_find?_eq_some hk
  have := List.all_eq_true.mp chains_cover_parts ki (List.mem_filter.mpr ⟨hmem, by rw [hcustom, hreg]; rfl⟩)
  simp only [Bool.and_eq_true] at this
  exact member_found_regular hk this.1 this.2 keywords_not_numerals hl hne hd hc

theorem schema_finds_its_members {ms : List (String × Json)} {tok : String} {v : Json}
    (hl : lookupKey ms tok = some v) (hne : tok ≠ "$ref") (hns : tok ≠ "$schema")
    (hcanon : ∀ n, atoi tok = some n → itoa n = tok) : lookupTok "schema" ms tok = some v := by
  obtain ⟨ki, h1, h2⟩ := schema_chain
  exact member_found_schema h1 h2 hl hne hns hcanon

theorem responses_find_their_members {ms : List (String × Json)} {tok : String} {v : Json}
    (hl : lookupKey ms tok = some v)
    (hem : tok = "default" ∨ isExtKey tok = true ∨ ∃ n, tok = itoa n ∧ int64Range n) :
    lookupTok "responses" ms tok = some v := by
  obtain ⟨ki, h1, h2⟩ := responses_chain
  exact member_found_responses h1 h2 hl hem

theorem paths_find_their_members {ms : List (String × Json)} {tok : String} {v : Json}
    (hl : lookupKey ms tok = some v) (hem : startsWithSlash tok = true ∨ isExtKey tok = true) :
    lookupTok "paths" ms tok = some v := by
  obtain ⟨ki, h1, h2⟩ := paths_chain
  exact member_found_paths h1 h2 hl hem

/-- **on actual encodings, regular kinds** (operation, parameter, header, items, path item, swagger, info, tag):
every member of what decode+encode returns, other than `$ref`, is found by the lookup with its value -/
theorem lookup_agrees_on_regular_encodings {k : String} {ki : KindInfo} (hk : lookupKind Gen.kinds k = some ki)
    (hc : concatLookupKind ki = true) {j₀ : Json} {ms : List (String × Json)} (h : norm k j₀ = .ok (.obj ms))
    {tok : String} {v : Json} (hm : (tok, v) ∈ ms) (hne : tok ≠ "$ref") : lookupTok k ms tok = some v := by
  obtain ⟨hl, rec, hr, h⟩ := norm_kind C06.tables_ok h
  rw [normKind_concat hk hc] at h
  obtain ⟨d, hd, hcl⟩ := normConcatKind_claims hr C06.tables_ok.tables ki h (tok, v) hm
  obtain ⟨hspecial, _, hcustom⟩ := concatLookupKind_iff.mp hc
  have hreg : ["schema", "responses", "paths"].contains ki.kind = false := by
    simp only [List.mem_cons, List.not_mem_nil, or_false, not_or] at hspecial
    simp [hspecial]
  exact regular_kinds_find_their_members hk hcustom hreg (hl hm) hne hd hcl

/-- the kinds this covers -/
example : (Gen.kinds.filter concatLookupKind).map (·.kind) =
    ["swagger", "info", "tag", "parameter", "items", "header", "operation", "pathItem"] := by decide +kernel

/-- **on actual encodings, schema** -/
theorem lookup_agrees_on_schema_encodings {j₀ : Json} {ms : List (String × Json)} (h : norm "schema" j₀ = .ok (.obj ms))
    {tok : String} {v : Json} (hm : (tok, v) ∈ ms) (hne : tok ≠ "$ref") (hns : tok ≠ "$schema")
    (hcanon : ∀ n, atoi tok = some n → itoa n = tok) : lookupTok "schema" ms tok = some v :=
  schema_finds_its_members ((norm_kind C06.tables_ok h).1 hm) hne hns hcanon

/-- **on actual encodings, response and security scheme**: their hand-written encoders emit the live parts of the
kind, so these are regular kinds as far as the lookup is concerned -/
theorem lookup_agrees_on_response_encodings {j₀ : Json} {ms : List (String × Json)} (h : norm "response" j₀ = .ok (.obj ms))
    {tok : String} {v : Json} (hm : (tok, v) ∈ ms) (hne : tok ≠ "$ref") : lookupTok "response" ms tok = some v := by
  have side : ∃ ki, lookupKind Gen.kinds "response" = some ki ∧ ki.lookupChain.isEmpty = false ∧
      liveParts ki = ["ResponseProps", "Refable", "VendorExtensible"] := by decide +kernel
  obtain ⟨ki, hk, hcustom, hlive⟩ := side
  have hreg : ["schema", "responses", "paths"].contains ki.kind = false := by simp [lookupKind_kind hk]
  obtain ⟨hl, rec, hr, h⟩ := norm_kind C06.tables_ok h
  obtain ⟨bs, e, c⟩ := normResponse_parts hr C06.tables_ok.tables (normKind_response rec j₀ ▸ h)
  cases e
  obtain ⟨d, hd, hcl⟩ := confAll_claims c (tok, v) hm
  exact regular_kinds_find_their_members hk hcustom hreg (hl hm) hne
    (by simpa [hlive, descOf, responseDescs] using hd) hcl

theorem lookup_agrees_on_securityScheme_encodings {j₀ : Json} {ms : List (String × Json)}
    (h : norm "securityScheme" j₀ = .ok (.obj ms)) {tok : String} {v : Json} (hm : (tok, v) ∈ ms) (hne : tok ≠ "$ref") :
    lookupTok "securityScheme" ms tok = some v := by
  have side : ∃ ki, lookupKind Gen.kinds "securityScheme" = some ki ∧ ki.lookupChain.isEmpty = false ∧
      liveParts ki = ["SecuritySchemeProps", "VendorExtensible"] := by decide +kernel
  obtain ⟨ki, hk, hcustom, hlive⟩ := side
  have hreg : ["schema", "responses", "paths"].contains ki.kind = false := by simp [lookupKind_kind hk]
  obtain ⟨hl, rec, hr, h⟩ := norm_kind C06.tables_ok h
  obtain ⟨bs, e, c⟩ := normSecurityScheme_parts hr C06.tables_ok.tables (normKind_securityScheme rec j₀ ▸ h)
  cases e
  obtain ⟨d, hd, hcl⟩ := confAll_claims c (tok, v) hm
  exact regular_kinds_find_their_members hk hcustom hreg (hl hm) hne
    (by simpa [hlive, descOf, securitySchemeDescs] using hd) hcl

/-- **on actual encodings, responses and paths**: every member, without exception -/
theorem lookup_agrees_on_responses_encodings {j₀ : Json} {ms : List (String × Json)}
    (h : norm "responses" j₀ = .ok (.obj ms)) {tok : String} {v : Json} (hm : (tok, v) ∈ ms) :
    lookupTok "responses" ms tok = some v := by
  obtain ⟨hl, rec, _, h⟩ := norm_kind C06.tables_ok h
  exact responses_find_their_members (hl hm) (normResponses_members (normKind_responses rec j₀ ▸ h) (tok, v) hm)

theorem lookup_agrees_on_paths_encodings {j₀ : Json} {ms : List (String × Json)} (h : norm "paths" j₀ = .ok (.obj ms))
    {tok : String} {v : Json} (hm : (tok, v) ∈ ms) : lookupTok "paths" ms tok = some v := by
  obtain ⟨hl, rec, _, h⟩ := norm_kind C06.tables_ok h
  exact paths_find_their_members (hl hm) (normPaths_members (normKind_paths rec j₀ ▸ h) (tok, v) hm)

/-- non-vacuity: the model on a small operation, a schema with an unknown keyword, and a responses object -/
example : lookupTok "operation" [("operationId", .str "op"), ("x-a", .num 1)] "operationId" = some (.str "op") := by
  decide +kernel
example : lookupTok "schema" [("title", .str "t"), ("custom", .num 1)] "custom" = some (.num 1) := by decide +kernel
example : lookupTok "responses" [("200", .obj []), ("default", .obj [])] "200" = some (.obj []) := by decide +kernel
example : lookupTok "schema" [("$schema", .str "u")] "$schema" = none := by decide +kernel   -- K-C15-1

end SpecModel.Props.C15
