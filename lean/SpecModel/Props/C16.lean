/-
C16 — No hidden state between calls.

Model: `SpecModel/Cache/Model.lean`, `runCall` / `runHistory`: a heap of cache objects whose object 0 is the
package-level `resCache`; `cacheOrDefault(nil)` allocates a fresh shallow clone of object 0, and
`cacheOrDefault(c)` uses the caller's object `c` as is.  A call *can* be aimed at object 0 in this
semantics (`arg = .some 0`) and then object 0 changes (see the last example): that object 0 stays
unchanged is a theorem about how `cacheOrDefault` picks the object, not a consequence of typing.
The Go side condition (extractor): `resCache` is written only by `initResolutionCache` under `sync.Once`,
and the only expression handing it out is `resCache.ShallowClone()`.

The loader may change arbitrarily between calls (`Call.loader` is per call).
-/
import SpecModel.Cache.Lemmas
import SpecModel.Cache.SideFacts

namespace SpecModel.Props.C16
open SpecModel.Cache

variable {δ ε α : Type}

/-- Whatever the earlier calls did (any programs, any loaders, with or without caller caches other than
object 0, any other objects `T` already on the heap): every call made without a caller cache behaves
exactly (result, loader log, trace) like a run on a clone of the initial package-level cache `G₀` with that
call's loader, and afterwards object 0 is still `G₀`. -/
theorem history_independent (G₀ : Cache δ) (T : Heap δ) (h : List (Call δ ε α)) (hn : NoGlobalArg h) :
    (runHistory (G₀ :: T) h).1[0]? = some G₀ ∧
    (runHistory (G₀ :: T) h).2.length = h.length ∧
    ∀ (i : Nat) (c : Call δ ε α), h[i]? = some c → c.arg = .none →
      (runHistory (G₀ :: T) h).2[i]? = some (runSeq c.prog G₀.clone c.loader) := by
  induction h generalizing T with
  | nil => exact ⟨rfl, rfl, by simp⟩
  | cons c cs ih =>
    obtain ⟨T1, hT1⟩ := runCall_head G₀ T c (hn c (by simp))
    obtain ⟨h0, -, hres⟩ := ih T1 fun x hx => hn x (by simp [hx])
    rw [runHistory_cons, hT1]
    refine ⟨h0, by simp [runHistory_length], fun i c' hi harg => ?_⟩
    cases i with
    | zero => cases hi; simp [runCall_none G₀ T c harg]
    | succ n => exact hres n c' hi harg

/-- The form of the design note: all calls pass `nil`. -/
theorem history_independent_nil (G₀ : Cache δ) (h : List (Call δ ε α)) (hnil : ∀ c ∈ h, c.arg = .none) :
    (runHistory [G₀] h).1[0]? = some G₀ ∧
    ∀ (i : Nat) (c : Call δ ε α), h[i]? = some c →
      ((runHistory [G₀] h).2[i]?).map (·.result) = some (runSeq c.prog G₀.clone c.loader).result := by
  have hn : NoGlobalArg h := fun c hc e => by rw [hnil c hc] at e; cases e
  obtain ⟨h0, -, hres⟩ := history_independent G₀ [] h hn
  refine ⟨h0, ?_⟩
  intro i c hi
  rw [hres i c hi (hnil c (List.mem_of_getElem? hi))]; rfl

/-- Built-in documents: after any history every key of `G₀` still resolves, in the package-level cache, to
the same document; and a later call without a caller cache obtains it without calling the loader. -/
theorem builtins_stay (G₀ : Cache δ) (T : Heap δ) (h : List (Call δ ε α)) (hn : NoGlobalArg h)
    (u : Url) (d : δ) (hu : G₀.get u = some d) :
    ((runHistory (G₀ :: T) h).1.getD 0 []).get u = some d ∧
    ∀ (L : Url → Except ε δ),
      let r := (runHistory (runHistory (G₀ :: T) h).1
                  [⟨.load u fun x => .ret x, L, .none⟩]).2
      r.map (·.result) = [.ok d] ∧ r.map (·.log) = [[]] := by
  have hG : (runHistory (G₀ :: T) h).1.getD 0 [] = G₀ := by
    simp [List.getD_eq_getElem?_getD, (history_independent G₀ T h hn).1]
  refine ⟨hG.symm ▸ hu, fun L => ?_⟩
  simp only [runHistory, runCall, hG, Cache.clone_eq, List.map_cons, List.map_nil]
  rw [runSeq_load_hit hu]
  simp

/-! ### Non-vacuity -/

section Examples

def G : Cache String := [("http://swagger.io/v2/schema.json", "SW"), ("http://json-schema.org/draft-04/schema", "JS")]

def Lx (doc : String) : Url → Except String String := fun u => if u = "x" then .ok doc else .error "404"

def px : Prog String String String :=
  .setPseudo ".root" "R" fun _ => .load "x" fun r => .ret (match r with | .ok d => d | .error e => "!" ++ e)

/-- Three calls: the loader content changes between them, the second uses a caller cache (object 1, reused
by nobody else).  Object 0 is untouched and the third call sees the *new* loader content, not the first's. -/
def hist : List (Call String String String) :=
  [⟨px, Lx "v1", .none⟩, ⟨px, Lx "v2", .some 1⟩, ⟨px, Lx "v3", .none⟩]

example : NoGlobalArg hist := by unfold NoGlobalArg; decide
example : ((runHistory [G, []] hist).2.map (·.result)) = ["v1", "v2", "v3"] := by decide +kernel
example : (runHistory [G, []] hist).1[0]? = some G := rfl
/-- ... while a caller cache that is reused does carry state, as it should: -/
example : ((runHistory [G, []] [⟨px, Lx "v1", .some 1⟩, ⟨px, Lx "v2", .some 1⟩]).2.map (·.result)) = ["v1", "v1"] := by
  decide +kernel
/-- The hypothesis `NoGlobalArg` is needed: the semantics can express a write to object 0. -/
example : (runHistory [G] [(⟨px, Lx "v1", .some 0⟩ : Call String String String)]).1[0]? ≠ some G := by decide +kernel
example : ((runHistory [G] [⟨px, Lx "v1", .some 0⟩, ⟨px, Lx "v2", .none⟩]).2.map (·.result)) = ["v1", "v1"] := by decide +kernel

end Examples

/-! ### Side conditions on the Go source (regenerated facts, `decide`)

These are the assumptions under which `runHistory` models the package: object 0 (`resCache`) is initialised
once and afterwards only cloned, never handed out (`NoGlobalArg`); no other package-level variable is
assigned by the package; every exported entry point clones the caller's options before touching them. -/

open SpecModel.Cache.Side in
theorem side_pkgVars_present : pkgVarsPresent SpecModel.Gen.pkgVars = true := by decide +kernel
open SpecModel.Cache.Side in
theorem side_pkgVars_stable : pkgVarsStable SpecModel.Gen.pkgVars = true := pkgVars_stable
/-- The package-level variables are exactly these (regenerated on every run): state kept in a NEW package-level
variable - a memo, a pool, a table that is only ever mutated through its methods and never assigned, so that
`side_pkgVars_stable` does not see it - has to be looked at before this list is changed. -/
theorem side_pkgVars_exactly : SpecModel.Gen.pkgVars.map (·.1) =
    ["Debug", "ErrDerefUnsupportedType", "ErrExpandUnsupportedType", "ErrResolveRefNeedsAPointer", "ErrSpec",
     "ErrUnknownTypeForReference", "PathLoader", "assets", "jsFalse", "jsTrue", "onceCache", "resCache", "specLogger"] := rfl
open SpecModel.Cache.Side in
theorem side_init_only_once : initOnlyOnce SpecModel.Gen.initCalls = true := init_only_once
open SpecModel.Cache.Side in
theorem side_global_never_escapes : globalNeverEscapes SpecModel.Gen.globalUses = true := by decide +kernel
open SpecModel.Cache.Side in
theorem side_only_global_cloned : onlyGlobalCloned SpecModel.Gen.cloneCalls = true := only_global_cloned
open SpecModel.Cache.Side in
theorem side_caller_options_cloned : callerOptionsCloned SpecModel.Gen.optsFlow = true := by decide +kernel

end SpecModel.Props.C16
