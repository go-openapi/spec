/-
C17 — Concurrent use gives the sequential answers.

Model: `SpecModel/Cache/Model.lean`, `step` / `runSched`: N threads share ONE cache object and are
interleaved by an arbitrary schedule at the granularity of the atomic actions of the Go code: the `Get` of
`load`, the loader call, the `Set` of `load`, a direct `Set`, a direct `Get`.  Between its `Get` miss and its
`Set` a thread is in an intermediate state (`fetching`, `storing`), so the lost-update / double-fetch
interleavings of the non-atomic `load` are all present in the model.

OUT OF SCOPE (cannot be exhibited by this model): data races in the sense of the Go memory model.  The model
assumes each `Get` / `Set` is atomic (the RWMutex of `simpleCache`; for a caller-supplied `ResolutionCache`
this is the caller's obligation) and that documents are never mutated after being stored.  Those are side
conditions checked on the source (lock discipline, `sync.Once`) and by `-race` runs, not theorems here.

What sharing requires (`Ideal`, the discipline): there is one table `P` of pseudo documents such that every
direct `Set u d` of every thread has `P u = some d` (threads agree on common pseudo keys — e.g. all expand
against the same root), and a thread `load`s / directly `Get`s a pseudo key only after it has itself written
it.  Every other `load` may race freely.  Without the second clause the answers really do depend on the
schedule (examples `tA`, `tB`): thread B `load`ing a URL that thread A registers as a pseudo document (`id`) gets
the loader's document or A's, depending on who comes first.  Threads that do not share a cache object
(callers passing `nil`) are covered by C16.
-/
import SpecModel.Cache.Lemmas
import SpecModel.Cache.SideFacts

namespace SpecModel.Props.C17
open SpecModel.Cache

variable {δ ε α : Type}

/-- All threads use the same loader `L` and follow the discipline for one common pseudo table `P`, starting
from a shared cache `C₀` (any content).  Then under EVERY schedule (complete or not), any thread that has
finished holds exactly the result of its solo sequential run from `C₀`. -/
theorem sched_independent (P : Url → Option δ) (ps : List (Prog δ ε α)) (C₀ : Cache δ) (L : Url → Except ε δ)
    (hd : ∀ p ∈ ps, ∃ a, Ideal P (view C₀ L) [] p a) (sched : List Nat) (i : Nat) (a : α)
    (hfin : (runSched (Config.init ps C₀) L sched).results[i]? = some (some a)) :
    ∃ p, ps[i]? = some p ∧ a = (runSeq p C₀ L).result := by
  have := ((sinv_init hd).runSched sched).result hfin
  simp only [List.getElem?_map, Option.map_eq_some_iff] at this
  obtain ⟨p, hp, rfl⟩ := this
  exact ⟨p, hp, rfl⟩

/-- For a schedule that runs all threads to completion: the vector of results is the vector of solo results. -/
theorem sched_independent_complete (P : Url → Option δ) (ps : List (Prog δ ε α)) (C₀ : Cache δ)
    (L : Url → Except ε δ) (hd : ∀ p ∈ ps, ∃ a, Ideal P (view C₀ L) [] p a) (sched : List Nat)
    (hall : (runSched (Config.init ps C₀) L sched).allFinished = true) :
    (runSched (Config.init ps C₀) L sched).results = ps.map fun p => some (runSeq p C₀ L).result := by
  apply List.ext_getElem?
  intro i
  simp only [Config.results, List.getElem?_map]
  cases hs : (runSched (Config.init ps C₀) L sched).threads[i]? with
  | none =>
    have hi : ps.length ≤ i := by
      simpa [runSched_length, Config.init] using List.getElem?_eq_none_iff.1 hs
    simp [hi]
  | some s =>
    obtain ⟨a, rfl⟩ := TState.finished_iff.1 (allFinished_iff.1 hall i s hs)
    obtain ⟨p, hp, rfl⟩ := sched_independent P ps C₀ L hd sched i a (by simp [Config.results, hs, TState.result?])
    simp [hp, TState.result?]

/-- Threads that only `load` (no direct cache access) need no discipline at all; if moreover the shared
cache is coherent with the loader, every thread gets the answer of a run on an empty private cache. -/
theorem sched_independent_loadOnly (ps : List (Prog δ ε α)) (hps : ∀ p ∈ ps, LoadOnly p) (C₀ : Cache δ)
    (L : Url → Except ε δ) (hc : Coherent C₀ L []) (sched : List Nat) (i : Nat) (a : α)
    (hfin : (runSched (Config.init ps C₀) L sched).results[i]? = some (some a)) :
    ∃ p, ps[i]? = some p ∧ a = (runSeq p C₀ L).result ∧ a = (runSeq p [] L).result := by
  obtain ⟨p, hp, ha⟩ := sched_independent (fun _ => none) ps C₀ L
    (fun p hp => (hps p hp).ideal _) sched i a hfin
  refine ⟨p, hp, ha, ?_⟩
  rw [ha]
  exact result_of_coherent (hps p (List.mem_of_getElem? hp)).peekFree hc

/-- Progress: no configuration is stuck.  A scheduled unfinished thread performs exactly one atomic action
(one event is appended, tagged with the thread), and its state moves down the well-founded order `Next`.
(The only blocking primitive, the lock around one map access, is inside an atomic action.) -/
theorem no_stuck (c : Config δ ε α) (L : Url → Except ε δ) (i : Nat) (s : TState δ ε α)
    (hs : c.threads[i]? = some s) (hf : s.finished = false) :
    ∃ e s', (c.stepThread L i).trace = c.trace ++ [(i, e)] ∧
      (c.stepThread L i).threads[i]? = some s' ∧ Next s' s := by
  obtain ⟨e, he⟩ := step_one_event c.cache L hf
  refine ⟨e, (step c.cache L s).2.1, ?_, stepThread_self L hs, hf, c.cache, L, rfl⟩
  rw [stepThread_of_get hs, he]; rfl

/-- A thread cannot perform infinitely many actions, whatever the cache, the loader and the others do. -/
theorem steps_wellFounded : WellFounded (Next : TState δ ε α → TState δ ε α → Prop) := next_wf

/-- Termination: under any schedule that keeps scheduling every thread (`Fair`), some finite prefix brings
all threads to completion, and they stay complete under every longer prefix.
(A uniform numeric bound does not exist in general: a program is a well-founded but infinitely branching
tree, the number of actions depends on the answers received.) -/
theorem sched_terminates (ps : List (Prog δ ε α)) (C₀ : Cache δ) (L : Url → Except ε δ) (σ : Nat → Nat)
    (hfair : Fair ps.length σ) :
    ∃ N, ∀ N', N ≤ N' → (runSched (Config.init ps C₀) L (schedPrefix σ N')).allFinished = true := by
  have hlen : (Config.init ps C₀ : Config δ ε α).threads.length = ps.length := by simp [Config.init]
  obtain ⟨N, hN⟩ := all_terminate (Config.init ps C₀) L σ (by rw [hlen]; exact hfair) ps.length (by omega)
  refine ⟨N, fun N' hN' => allFinished_iff.2 fun i s hs => ?_⟩
  have hi := (List.getElem?_eq_some_iff.1 hs).1
  rw [runSched_length, hlen] at hi
  obtain ⟨s', hs', hf⟩ := hN N' hN' i hi
  exact Option.some.inj (hs'.symm.trans hs) ▸ hf

/-- Every trace of the concurrent semantics is accepted by the executable multi-thread validator
(run by the driver on traces recorded from concurrent Go runs), once all threads have finished. -/
theorem runSched_trace_valid (ps : List (Prog δ ε α)) (C₀ : Cache δ) (L : Url → Except ε δ) (sched : List Nat)
    (hall : (runSched (Config.init ps C₀) L sched).allFinished = true) :
    validTraceMT C₀.keys (runSched (Config.init ps C₀) L sched).trace = true := by
  obtain ⟨keys, phs, hc, -, hm, hn⟩ := (mtinv_init ps C₀).runSched L sched
  simp only [validTraceMT, hc, List.all_eq_true]
  intro x _
  cases hx : (runSched (Config.init ps C₀) L sched).threads[x.1]? with
  | none => rw [hn _ hx]; rfl
  | some s =>
    exact phaseMatch_finished (allFinished_iff.1 hall _ s hx) (hm _ s hx)

/-- The two semantics are the same thing at two granularities: one thread alone on the cache, stepped often
enough, ends with the result, the cache and the trace of `runSeq`. -/
theorem runSched_single_is_runSeq (p : Prog δ ε α) (C : Cache δ) (L : Url → Except ε δ) :
    ∃ n, runSched (Config.init [p] C) L (List.replicate n 0) =
      ⟨[.run (.ret (runSeq p C L).result)], (runSeq p C L).cache,
        (runSeq p C L).trace.map (fun e => (0, e))⟩ := by
  refine runSeq_steps L (I := fun C' s t => ∃ n, runSched (Config.init [p] C) L (List.replicate n 0) =
    ⟨[s], C', t.map fun e => (0, e)⟩) ?_ p C [] ⟨0, rfl⟩
  rintro C' s t ⟨n, hn⟩
  refine ⟨n + 1, ?_⟩
  rw [List.replicate_succ', runSched_append, hn]
  simp [runSched, Config.stepThread]

/-! ### Non-vacuity -/

section Examples

def L₁ : Url → Except String String := fun u =>
  if u = "a" then .ok "A" else if u = "b" then .ok "B" else .error "404"

def show' : Except String String → String
  | .ok d => d
  | .error e => "!" ++ e

/-- writes the common root, reads it back, loads two documents -/
def t₁ : Prog String String (List String) :=
  .setPseudo ".root" "R" fun _ => .load ".root" fun r0 => .load "a" fun r1 => .load "b" fun r2 =>
    .ret [show' r0, show' r1, show' r2]
def t₂ : Prog String String (List String) :=
  .setPseudo ".root" "R" fun _ => .load "b" fun r1 => .load ".root" fun r0 => .load "x" fun r2 =>
    .ret [show' r1, show' r0, show' r2]

def P₁ : Url → Option String := fun u => if u = ".root" then some "R" else none

theorem t₁_ideal : Ideal P₁ (view [] L₁) [] t₁ ["R", "A", "B"] :=
  .setPseudo _ _ _ _ _ rfl (.loadOwn _ _ "R" _ _ (by simp) rfl
    (.loadExt _ _ _ _ rfl (.loadExt _ _ _ _ rfl (.ret _ _))))
theorem t₂_ideal : Ideal P₁ (view [] L₁) [] t₂ ["B", "R", "!404"] :=
  .setPseudo _ _ _ _ _ rfl (.loadExt _ _ _ _ rfl (.loadOwn _ _ "R" _ _ (by simp) rfl
    (.loadExt _ _ _ _ rfl (.ret _ _))))

/-- the hypothesis of `sched_independent` holds for these two threads -/
example : ∀ p ∈ [t₁, t₂], ∃ a, Ideal P₁ (view [] L₁) [] p a :=
  List.forall_mem_cons.2 ⟨⟨_, t₁_ideal⟩, List.forall_mem_cons.2 ⟨⟨_, t₂_ideal⟩, nofun⟩⟩

/-- an interleaving in which both threads miss on "b" and both fetch it (double fetch), yet the answers
are the solo answers -/
def sched₁ : List Nat := [0, 1, 0, 0, 0, 0, 1, 0, 1, 0, 1, 0, 1, 1, 1]

example : (runSched (Config.init [t₁, t₂] []) L₁ sched₁).allFinished = true := by decide +kernel
example : (runSched (Config.init [t₁, t₂] []) L₁ sched₁).results = [some ["R", "A", "B"], some ["B", "R", "!404"]] := by
  decide +kernel
example : ((runSched (Config.init [t₁, t₂] []) L₁ sched₁).trace.filter (· matches (_, .fetch "b" true))).length = 2 := by
  decide +kernel
example : validTraceMT [] (runSched (Config.init [t₁, t₂] []) L₁ sched₁).trace = true := by decide +kernel
example : [(runSeq t₁ [] L₁).result, (runSeq t₂ [] L₁).result] = [["R", "A", "B"], ["B", "R", "!404"]] := by decide +kernel

/-- an unfair / too short schedule leaves a thread unfinished, and a thread in the middle of `load` -/
example : (runSched (Config.init [t₁, t₂] []) L₁ [0, 0, 0, 0, 0, 0, 0, 0, 0, 0]).results = [some ["R", "A", "B"], none] := by
  decide +kernel
example : ((runSched (Config.init [t₁, t₂] []) L₁ [1, 1, 1]).threads.map fun s => s matches .storing "b" "B" _) = [false, true] := by
  decide +kernel

/-- The discipline is needed: thread B loads a URL that thread A registers as a pseudo document.
B's answer depends on the schedule. -/
def tA : Prog String String String := .setPseudo "a" "ID-SCHEMA" fun _ => .ret "done"
def tB : Prog String String String := .load "a" fun r => .ret (show' r)

example : (runSched (Config.init [tA, tB] []) L₁ [0, 1, 1, 1]).results = [some "done", some "ID-SCHEMA"] := by decide +kernel
example : (runSched (Config.init [tA, tB] []) L₁ [1, 1, 1, 0]).results = [some "done", some "A"] := by decide +kernel
/-- ... and the non-atomic `load` can even overwrite the pseudo document afterwards (lost update): -/
example : ((runSched (Config.init [tA, tB] []) L₁ [1, 1, 0, 1]).cache.get "a") = some "A" := by decide +kernel

/-- fairness: round-robin over two threads -/
example : Fair 2 (fun t => t % 2) := by
  intro i hi t
  exact ⟨2 * t + i, by omega, show (2 * t + i) % 2 = i by omega⟩

end Examples

/-! ### Side conditions on the Go source (regenerated facts, `decide`)

The model's atomic `Get` / `Set` are the critical sections of `simpleCache`; the package-level cache is
written once under `sync.Once` and only read (cloned) afterwards; nothing outside `simpleCache` touches its
map.  These are the facts the data-race clause rests on besides the `-race` runs of the harness. -/

open SpecModel.Cache.Side in
theorem side_lock_discipline : lockDiscipline SpecModel.Gen.storeAccesses = true := by decide +kernel
open SpecModel.Cache.Side in
theorem side_get_set_present : getSetPresent SpecModel.Gen.storeAccesses = true := by decide +kernel
theorem side_store_private : SpecModel.Gen.storeOutside = [] := by decide +kernel
open SpecModel.Cache.Side in
theorem side_init_only_once : initOnlyOnce SpecModel.Gen.initCalls = true := init_only_once
open SpecModel.Cache.Side in
theorem side_only_global_cloned : onlyGlobalCloned SpecModel.Gen.cloneCalls = true := only_global_cloned
open SpecModel.Cache.Side in
theorem side_pkgVars_stable : pkgVarsStable SpecModel.Gen.pkgVars = true := pkgVars_stable

end SpecModel.Props.C17
