/-
C05 — Resolving a reference returns exactly the designated sub-document.

Model (`SpecModel/Pointer.lean`): `resolve docs base ref kind` = RFC 3986 resolution of the URI part against the
base (`Url.normalizeURI`, whose agreement with the RFC is C12), fetch of that document, RFC 6901 evaluation of
the fragment (tokens split at '/', `~1` then `~0` unescaped, objects by member name, arrays by decimal index),
then the codec of the requested kind (`Codec.norm`, the model of swag.DynamicJSONToStruct + json.Marshal).
It is tied to `ResolveRefWithBase` / `ResolveParameterWithBase` / … by the `resolve` correspondence on every
run (location-only and generic roots); the agreement of typed roots with generic ones is the oracle's job here
and C15's in general.

Proved for all inputs:
* `token_roundtrip` — any member name (whatever characters: '/', '~', '%', '#', spaces, non-ASCII) written as a
  pointer token and read back through jsonpointer's two-pass `Unescape` is the name; an escaped token contains
  no separator (`escaped_token_has_no_separator`), so names never split;
* `eval_compositional` — evaluating a pointer is evaluating its prefix, then the rest from there (nested
  pointers through properties / items / allOf are chains of single steps);
* `resolve_is_designated` — the result is the codec of `designated`, nothing else: no nested `$ref` is followed
  (the model has no such step) and the documents are values (nothing can be modified);
* `designates_nothing_is_error` — a reference that designates nothing is an error, never a value;
* `fragment_only_stays_in_base` (via C12; the empty reference is the case of the empty fragment).
-/
import SpecModel.PointerLemmas
import SpecModel.Props.C12

namespace SpecModel.Props.C05
open SpecModel SpecModel.Pointer

theorem token_roundtrip (name : List Char) : unescape (escape name) = name := unescape_escape name

theorem escaped_token_has_no_separator (name : List Char) : '/' ∉ escape name := escape_no_slash name

example : unescape (escape "a/b~c~1~01%2F é".toList) = "a/b~c~1~01%2F é".toList := token_roundtrip _
example : String.ofList (escape "a/b~c".toList) = "a~1b~0c" := by decide +kernel

theorem eval_compositional (j : Json) (a b : List String) :
    eval j (a ++ b) = (eval j a).bind fun x => eval x b := eval_append j a b

theorem resolve_is_designated (docs : List Doc) (base ref : Url.URL) (kind : String) (v : Json)
    (h : designated docs base ref = some v) :
    resolve docs base ref kind = decodeAs kind v := by
  simp [resolve, h]

theorem designates_nothing_is_error (docs : List Doc) (base ref : Url.URL) (kind : String)
    (h : designated docs base ref = none) : ∃ e, resolve docs base ref kind = .error e := by
  simp [resolve, h]

/-- a dangling pointer designates nothing -/
theorem dangling_pointer (docs : List Doc) (base ref : Url.URL) (doc : Json) (toks : List String)
    (hd : fetch docs (Url.normalizeURI ref base) = some doc)
    (ht : tokens (Url.normalizeURI ref base).fragment = some toks) (he : eval doc toks = none) :
    designated docs base ref = none := by
  simp [designated, hd, ht, he]

/-- a dangling document designates nothing -/
theorem dangling_document (docs : List Doc) (base ref : Url.URL)
    (hd : fetch docs (Url.normalizeURI ref base) = none) : designated docs base ref = none := by
  simp [designated, hd]

/-- a fragment-only (or empty) reference designates a place in the base document itself -/
theorem fragment_only_stays_in_base (r base : Url.URL) (hs : r.scheme = "") (hh : r.host = "") (hp : r.path = "") :
    Url.normalizeURI r base = { base with fragment := r.fragment } := C12.fragment_only_is_base r base hs hh hp

/-! non-vacuity -/
def exDoc : Json := .obj [("definitions", .obj [("a/b", .obj [("items", .arr [.str "x", .obj [("k", .num 1)]])])])]
example : ((tokens "/definitions/a~1b/items/1/k").bind (eval exDoc)).map Json.render = some "1" := by decide +kernel
example : ((tokens "/definitions/a~1b/items/2").bind (eval exDoc)).isNone = true := by decide +kernel
example : ((tokens "/definitions/a/b").bind (eval exDoc)).isNone = true := by decide +kernel

end SpecModel.Props.C05
