/-
C18 — A resolution cache is transparent, and documents are fetched at most once.

Model: `SpecModel/Cache/Model.lean` (`runSeq` = the Get / loader / Set protocol of `schemaLoader.load`,
plus the direct `Set`s of `baseForRoot` / `setSchemaID` and the direct `Get`s of `baseForRoot` /
`transitiveResolver`).  Helper lemmas are in `SpecModel/Cache/Lemmas.lean`.

Reading guide.
* `Coherent C L Ps` : every entry of `C` is what the loader `L` answers for that URL, or a pseudo entry of `Ps`.
* `PeekFree p` : `p` has no direct `cache.Get`.  A direct `Get` *does* observe whether a document was already
  fetched, so transparency cannot hold for arbitrary programs containing it; the two direct reads of the Go
  code only choose between "use the cached document" and "`load` the same URL", which is what the expander
  model (M4) has to show on top of this.
* "successful loader call" : a `fetch u true` event of the trace (`okFetches`), equivalently a logged URL on
  which `L` answers with a document (`fetch_at_most_once`, second clause).
-/
import SpecModel.Cache.Lemmas
import SpecModel.Cache.SideConditions
import SpecModel.Generated.CacheFacts

namespace SpecModel.Props.C18
open SpecModel.Cache

variable {δ ε α : Type}

/-! ### Transparency -/

/-- A cache whose entries are all what the loader would answer does not change any result. -/
theorem cache_transparent {p : Prog δ ε α} (hp : PeekFree p) (C : Cache δ) (L : Url → Except ε δ)
    (h : Coherent C L []) : (runSeq p C L).result = (runSeq p [] L).result :=
  result_of_coherent hp h

/-- General form, no coherence needed: a cache acts exactly like an override of the loader. -/
theorem cache_as_loader_override {p : Prog δ ε α} (hp : PeekFree p) (C : Cache δ) (L : Url → Except ε δ) :
    (runSeq p C L).result = (runSeq p [] (view C L)).result := by
  rw [result_eq_eval_view hp, result_eq_eval_view hp, view_nil]

/-- Two caches giving the same view give the same result (the simulation relation behind both theorems). -/
theorem cache_congr {p : Prog δ ε α} (hp : PeekFree p) (C C' : Cache δ) (L : Url → Except ε δ)
    (h : view C L = view C' L) : (runSeq p C L).result = (runSeq p C' L).result := by
  rw [result_eq_eval_view hp, result_eq_eval_view hp, h]

/-- A cache that also holds foreign pseudo entries `Ps` (left by earlier calls) is still transparent for a
run that never reads one of those keys before overwriting it (`avoids`, checkable on a recorded trace). -/
theorem cache_transparent_avoiding {p : Prog δ ε α} (hp : PeekFree p) (C : Cache δ) (L : Url → Except ε δ)
    (Ps : List (Url × δ)) (h : Coherent C L Ps)
    (ha : avoids (Ps.map (·.1)) (runSeq p C L).trace = true) :
    (runSeq p C L).result = (runSeq p [] L).result := by
  rw [result_eq_eval hp C L _ L (fun _ hu => h.view_eq hu) ha, result_eq_eval_view hp, view_nil]

/-! ### At most one successful fetch per URL -/

/-- In one run: no URL is fetched successfully twice; "successful" read off the trace is the same as
"the loader answers with a document"; and no URL held by the initial cache is passed to the loader at all
(successful or not).  A *failing* URL may be requested again: nothing is cached on failure. -/
theorem fetch_at_most_once (p : Prog δ ε α) (C : Cache δ) (L : Url → Except ε δ) :
    (okFetches (runSeq p C L).trace).Nodup ∧
    okFetches (runSeq p C L).trace = (runSeq p C L).log.filter (fun u => isOk (L u)) ∧
    ∀ u ∈ (runSeq p C L).log, u ∉ C.keys := by
  obtain ⟨_, _, hc, -, -⟩ := trace_ok p C L C.keys .idle 0 (KeysEq.refl C) rfl
  obtain ⟨h1, h2⟩ := fetch_once_of_checked hc
  exact ⟨h1, okFetches_eq_filter p C L, by rw [log_eq_fetches]; exact h2⟩

/-- The same over a chain of calls reusing one cache object: over the whole chain no URL is fetched
successfully twice, and nothing the initial cache held is fetched. -/
theorem fetch_at_most_once_chain (ps : List (Prog δ ε α)) (C : Cache δ) (L : Url → Except ε δ) :
    (okFetches (chainTrace (runMany ps C L))).Nodup ∧
    ∀ u ∈ fetches (chainTrace (runMany ps C L)), u ∉ C.keys := by
  obtain ⟨_, _, hc, -⟩ := chain_trace_ok ps L C C.keys .idle 0 (KeysEq.refl C) rfl
  exact fetch_once_of_checked hc

/-! ### Coherence is kept, so reuse composes -/

/-- After a run the cache is coherent again, the pseudo entries being those it had plus those the run wrote. -/
theorem coherent_preserved (p : Prog δ ε α) (C : Cache δ) (L : Url → Except ε δ) (Ps : List (Url × δ))
    (h : Coherent C L Ps) : Coherent (runSeq p C L).cache L (Ps ++ (runSeq p C L).pseudo) := by
  fun_induction runSeq p C L generalizing Ps with
  | case1 => simpa using h
  | case2 _ _ _ _ _ _ ih => simpa using ih Ps h
  | case3 _ _ _ _ _ _ hl ih => simpa using ih Ps (h.set (.inl hl))
  | case4 _ _ _ _ _ _ _ ih => simpa using ih Ps h
  | case5 u d _ C L ih =>
    have hc : Coherent (C.set u d) L (Ps ++ [(u, d)]) :=
      (h.mono fun _ hx => List.mem_append_left _ hx).set (.inr (by simp))
    simpa using ih _ hc
  | case6 _ _ _ _ ih => simpa using ih Ps h

/-- For programs that only `load`, strict coherence is kept. -/
theorem coherent_preserved_loadOnly {p : Prog δ ε α} (hp : LoadOnly p) (C : Cache δ) (L : Url → Except ε δ)
    (h : Coherent C L []) : Coherent (runSeq p C L).cache L [] := by
  simpa [pseudo_nil_of_loadOnly hp] using coherent_preserved p C L [] h

/-- Composed: programs run one after another on the same (initially coherent) cache each give the result
they would give on an empty cache, and the cache ends coherent. -/
theorem reuse_transparent (ps : List (Prog δ ε α)) (hps : ∀ p ∈ ps, LoadOnly p) (C : Cache δ)
    (L : Url → Except ε δ) (h : Coherent C L []) :
    Coherent (lastCache C (runMany ps C L)) L [] ∧
    ∀ (i : Nat) (p : Prog δ ε α), ps[i]? = some p →
      ∃ r, (runMany ps C L)[i]? = some r ∧ r.result = (runSeq p [] L).result := by
  induction ps generalizing C with
  | nil => exact ⟨h, by simp⟩
  | cons p ps ih =>
    have hp : LoadOnly p := hps p (by simp)
    obtain ⟨h1, h2⟩ := ih (fun q hq => hps q (by simp [hq])) _ (coherent_preserved_loadOnly hp C L h)
    refine ⟨h1, fun i q hi => ?_⟩
    cases i with
    | zero => cases hi; exact ⟨_, rfl, cache_transparent hp.peekFree C L h⟩
    | succ n => exact h2 n q hi

/-- Composed, with pseudo writes: every call of a chain sees the cache as a loader override, and the
accumulated pseudo entries are accounted for.  (With `cache_transparent_avoiding` this gives transparency
of each call whose trace avoids the earlier calls' pseudo keys.) -/
theorem reuse_coherent (p q : Prog δ ε α) (C : Cache δ) (L : Url → Except ε δ) (Ps : List (Url × δ))
    (h : Coherent C L Ps) :
    let r := runSeq p C L
    Coherent (runSeq q r.cache L).cache L (Ps ++ r.pseudo ++ (runSeq q r.cache L).pseudo) := by
  intro r
  exact coherent_preserved q r.cache L _ (coherent_preserved p C L Ps h)

/-! ### The executable trace validator -/

/-- The model only produces protocol-conforming traces. -/
theorem runSeq_trace_valid (p : Prog δ ε α) (C : Cache δ) (L : Url → Except ε δ) :
    validTrace C.keys (runSeq p C L).trace = true := by
  obtain ⟨k', p', hc, -, hp⟩ := trace_ok p C L C.keys .idle 0 (KeysEq.refl C) rfl
  simp [validTrace, validFrom, hc, hp]

/-- Any accepted single-thread trace — in particular one recorded from the Go code — has the at-most-once
property: no successful fetch twice, and no fetch (successful or not) of a key held initially. -/
theorem validTrace_fetch_once (keys : List Url) (t : List Event) (h : validTrace keys t = true) :
    (okFetches t).Nodup ∧ ∀ u ∈ fetches t, u ∉ keys := by
  obtain ⟨_, hc⟩ := validFrom_ok h
  exact fetch_once_of_checked hc

/-! ### Non-vacuity -/

section Examples

def L₁ : Url → Except String String := fun u =>
  if u = "a" then .ok "A" else if u = "b" then .ok "B" else .error "404"

/-- load a, load a again, load missing twice, pseudo-write b, load b (no fetch). -/
def p₁ : Prog String String (List String) :=
  .load "a" fun r1 => .load "a" fun r2 => .load "x" fun r3 => .load "x" fun r4 =>
  .setPseudo "b" "ROOT" fun _ => .load "b" fun r5 =>
    .ret ([r1, r2, r3, r4, r5].map fun r => match r with | .ok d => d | .error e => "!" ++ e)

def p₂ : Prog String String String :=
  .load "a" fun r => .load "b" fun s => .ret (match r, s with | .ok x, .ok y => x ++ y | _, _ => "?")

example : (runSeq p₁ [] L₁).result = ["A", "A", "!404", "!404", "ROOT"] := by decide +kernel
example : (runSeq p₁ [] L₁).log = ["a", "x", "x"] := by decide +kernel
example : okFetches (runSeq p₁ [] L₁).trace = ["a"] := by decide +kernel
example : (runSeq p₁ [("a", "A")] L₁).log = ["x", "x"] := by decide +kernel
example : (runSeq p₁ [] L₁).pseudo = [("b", "ROOT")] := by decide +kernel

/-- The coherence hypothesis of `cache_transparent` is satisfiable and is needed. -/
example : Coherent [("a", "A")] L₁ [] := (coherent_empty L₁ []).set (.inl rfl)
example : (runSeq p₂ [("a", "A")] L₁).result = (runSeq p₂ [] L₁).result := by decide +kernel
example : (runSeq p₂ [("a", "STALE")] L₁).result ≠ (runSeq p₂ [] L₁).result := by decide +kernel

/-- Without coherence the cache is still exactly a loader override. -/
example : (runSeq p₂ [("a", "STALE")] L₁).result = (runSeq p₂ [] (view [("a", "STALE")] L₁)).result := by decide +kernel

/-- `PeekFree` is needed: a bare `Get` tells a warm cache from a cold one. -/
example : (runSeq (.peek "a" fun r => .ret r.isSome : Prog String String Bool) [("a", "A")] L₁).result
    ≠ (runSeq (.peek "a" fun r => .ret r.isSome : Prog String String Bool) [] L₁).result := by decide +kernel

example : PeekFree p₂ := .load _ _ fun _ => .load _ _ fun _ => .ret _
example : LoadOnly p₂ := .load _ _ fun _ => .load _ _ fun _ => .ret _

/-- A foreign pseudo entry is observable unless avoided. -/
example : (runSeq p₂ [("b", "ROOT")] L₁).result ≠ (runSeq p₂ [] L₁).result := by decide +kernel
example : avoids ["b"] (runSeq p₂ [("b", "ROOT")] L₁).trace = false := by decide +kernel
example : avoids ["b"] (runSeq p₁ [("b", "OLDROOT")] L₁).trace = true := by decide +kernel
example : (runSeq p₁ [("b", "OLDROOT")] L₁).result = (runSeq p₁ [] L₁).result := by decide +kernel

/-- The validator accepts a model trace and rejects each kind of protocol breach. -/
example : validTrace [] (runSeq p₁ [] L₁).trace = true := by decide +kernel
example : validTrace [] [.fetch "a" true, .set "a"] = false := by decide +kernel
example : validTrace [] [.get "a" false, .fetch "a" true] = false := by decide +kernel
example : validTrace ["a"] [.get "a" false, .fetch "a" true, .set "a"] = false := by decide +kernel
example : validTrace [] [.get "a" false, .fetch "a" true, .set "a", .get "a" false, .fetch "a" true, .set "a"] = false := by
  decide +kernel
example : validTrace [] [.get "a" false, .fetch "a" false, .get "a" false, .fetch "a" true, .set "a"] = true := by decide +kernel
example : validTrace [] [.get "a" false, .get "b" false, .fetch "a" true, .set "a"] = false := by decide +kernel

/-- Reuse chain: the second program fetches only what the first did not. -/
example : (runMany [p₂, p₂] [] L₁).map (·.log) = [["a", "b"], []] := by decide +kernel

end Examples

/-! ### Side conditions on the Go source (regenerated facts, `decide`)

`schemaLoader.load` has the shape the model's `load` has (one key for lookup, fetch and store, in that
order), and every other cache access of the package is one of the model's `peek` / `setPseudo` sites. -/

open SpecModel.Cache.Side in
theorem side_load_protocol : loadProtocol SpecModel.Gen.loadShape = true := by decide +kernel
open SpecModel.Cache.Side in
theorem side_direct_accesses_modelled : directAccessesModelled SpecModel.Gen.directCacheCalls = true := by decide +kernel

end SpecModel.Props.C18
