/-
C19 — Round trip and expansion keep a valid Swagger 2.0 document valid.

What can break validity in a decode+encode is a member the meta-schema REQUIRES being dropped, or a member's
value changing type.  Proved here
* over the regenerated tables and the `required` lists taken from the pinned vocabulary (`decide`): every
  required member has a field in the kind's tables (`required_members_have_fields`); the required members that
  are tagged `omitempty` are exactly the pinned list (`required_omitempty_exactly`) — for the string-typed ones
  an empty string is dropped and a valid document becomes invalid: known finding K-C19-1; a new `omitempty` on
  any other required member (`paths`, `responses`, …) breaks this obligation;
* on the model, for all inputs: a field that is not `omitempty` is always emitted (`non_omitempty_always_emitted`),
  an `omitempty` field is emitted whenever its decoded value is not empty (`nonempty_emitted`).
* for whole values of every regular kind and every input (`required_member_survives`, Codec/Required.lean): the part
  and field a required member is encoded from are found in the regenerated tables (`required_members_located`,
  `decide`); a member whose field is not `omitempty` is present in every encoding; when the last input member that
  goes to the field is not `null`, the encoding carries its decoded value under the field's name unless `omitempty`
  drops it as empty; a required non-empty string comes out as it went in (`required_string_survives`).
Validity itself (draft-4 semantics, `oneOf` over parameter and security-scheme flavours) is decided per run by
an independent validator (python `jsonschema`, Draft4Validator over the meta-schema shipped in /repo) on every
generated valid document before and after round trip and expansion; that part is exploration, not proof.
-/
import SpecModel.Codec.Struct
import SpecModel.Codec.SideConditions
import SpecModel.Codec.Required
import SpecModel.KernelEval

namespace SpecModel.Props.C19
open SpecModel SpecModel.Codec

/-- The three facts about required members look up the same kinds, parts and fields: evaluated together they cost
the kernel little more than one of them.  The last one is what `response_keeps_description` asks of the table. -/
theorem required_checked :
    Side.requiredPresent Gen.kinds Gen.structs Gen.vocabRequired = true ∧
    Side.requiredOmitEmpty Gen.kinds Gen.structs Gen.vocabRequired =
      [("externalDocs", "url"), ("header", "type"), ("info", "title"), ("info", "version"), ("items", "type"),
       ("license", "name"), ("operation", "responses"), ("swagger", "info"), ("swagger", "swagger"), ("tag", "name")] ∧
    (Gen.vocabRequired.all fun kn => isSpecialKind kn.1 || kn.2.all fun n => (memberField kn.1 n).isSome) = true ∧
    ∃ f ∈ tableOf "ResponseProps", f.jsonName = "description" ∧ f.omitEmpty = false := by
  decide +kernel

theorem required_members_have_fields :
    Side.requiredPresent Gen.kinds Gen.structs Gen.vocabRequired = true := required_checked.1

theorem required_omitempty_exactly :
    Side.requiredOmitEmpty Gen.kinds Gen.structs Gen.vocabRequired =
      [("externalDocs", "url"), ("header", "type"), ("info", "title"), ("info", "version"), ("items", "type"),
       ("license", "name"), ("operation", "responses"), ("swagger", "info"), ("swagger", "swagger"), ("tag", "name")] :=
  required_checked.2.1

theorem non_omitempty_always_emitted (f : Field) (st : Option Json) (h : f.omitEmpty = false) :
    ∃ v, encodeField f st = some (f.jsonName, v) := encodeField_of_not_omit f st h

theorem nonempty_emitted (f : Field) (j : Json) (h : isEmptyEnc f.ft j = false) :
    encodeField f (some j) = some (f.jsonName, j) := by
  unfold encodeField; simp [h]

/-- the mechanism of K-C19-1: a required string member equal to "" is dropped by `omitempty` -/
theorem empty_required_string_dropped (f : Field) (h : f.omitEmpty = true) (hs : f.ft = .str) :
    encodeField f (some (.str "")) = none := by
  simp only [encodeField, h, hs]; rfl

example : ∃ f ∈ lookupStruct Gen.structs "InfoProps", f.jsonName = "title" ∧ f.omitEmpty = true ∧ f.ft = .str := by
  decide +kernel

/-! ### whole values: required members survive decode+encode -/

/-- every member the meta-schema requires of a regular kind is located (part, field) in the regenerated tables -/
theorem required_members_located :
    (Gen.vocabRequired.all fun kn => isSpecialKind kn.1 || kn.2.all fun n => (memberField kn.1 n).isSome) = true :=
  required_checked.2.2.1

/-- `norm` runs the codec of the kind with the codec of the nested kinds one level of budget down -/
theorem norm_unfold (k : String) (j : Json) : norm k j = normKind (normF (3 * depth j + 3)) k j := rfl

/-- **Required members survive** (regular kinds, every input object): with `(P, f)` the part and field the member
`n` of kind `k` is encoded from, the output of decode+encode is an object in which
* `n` is present whenever `f` is not `omitempty`;
* if the last input member that goes to `f` (exact name, else Go's case folding) has the non-null value `v`, then `v`
  decodes and encodes to some `r`, and `(n, r)` is in the output unless `omitempty` drops `r` as empty. -/
theorem required_member_survives {k n P : String} {f : Field} (hm : memberField k n = some (P, f))
    {ms : List (String × Json)} {j' : Json} (h : norm k (.obj ms) = .ok j') :
    ∃ out, j' = .obj out ∧
      (f.omitEmpty = false → ∃ r, (n, r) ∈ out) ∧
      (∀ vs v, fieldVals (tableOf P) n ms = vs ++ [v] → v ≠ .null →
        ∃ r, normFT (normF (3 * depth (.obj ms) + 3)) f.ft v = .ok r ∧ (isEmptyEnc f.ft r = false → (n, r) ∈ out)) := by
  obtain ⟨_, _, _, _, _, rfl⟩ := memberField_sound hm
  obtain ⟨out, rfl, st, hst, hmem⟩ := normKind_member hm (norm_unfold .. ▸ h)
  refine ⟨out, rfl, fun ho => ?_, fun vs v hvals hv => ?_⟩
  · obtain ⟨v, hv⟩ := non_omitempty_always_emitted f st ho
    exact ⟨v, hmem _ hv⟩
  · obtain ⟨r, hr, rfl⟩ := fieldState_last hvals hv hst
    exact ⟨r, hr, fun he => hmem _ (nonempty_emitted f r he)⟩

/-- a required string that is not empty comes out as it went in -/
theorem required_string_survives {k n P : String} {f : Field} (hm : memberField k n = some (P, f)) (hstr : f.ft = .str)
    {ms : List (String × Json)} {j' : Json} (h : norm k (.obj ms) = .ok j') {vs : List Json} {s : String}
    (hv : fieldVals (tableOf P) n ms = vs ++ [.str s]) (hs : s ≠ "") :
    ∃ out, j' = .obj out ∧ (n, .str s) ∈ out := by
  obtain ⟨out, ho, _, h2⟩ := required_member_survives hm h
  obtain ⟨r, hr, hmem⟩ := h2 vs (.str s) hv nofun
  rw [hstr] at hr hmem
  cases pure_ok.mp hr
  exact ⟨out, ho, hmem (beq_eq_false_iff_ne.mpr hs)⟩

/-- **A response keeps its `description`** (hand-written codec, every input object): unless the response is given by
reference (its encoding carries a non-empty `$ref`; then `Response.MarshalJSON` omits an empty description), the
encoding has a `description` member. -/
theorem response_keeps_description {ms : List (String × Json)} {j' : Json} (h : norm "response" (.obj ms) = .ok j') :
    ∃ out, j' = .obj out ∧ ((∀ t, ("$ref", Json.str t) ∈ out → t = "") → ∃ r, ("description", r) ∈ out) := by
  rw [norm_unfold] at h
  exact response_description required_checked.2.2.2 h

/-- the theorem applies: `title` of `info` is a string field of the part `InfoProps`, and the last of three spellings
of the member decides -/
example : (memberField "info" "title").map (fun pf => (pf.1, pf.2.ft, pf.2.omitEmpty)) = some ("InfoProps", .str, true) := by
  decide +kernel
example : fieldVals (tableOf "InfoProps") "title" [("title", .str "t"), ("version", .str "1"), ("TITLE", .str "u")] =
    [.str "t"] ++ [.str "u"] := by decide +kernel
example : (memberField "swagger" "paths").map (fun pf => (pf.1, pf.2.omitEmpty)) = some ("SwaggerProps", false) := by
  decide +kernel
example : (memberField "operation" "responses").map (fun pf => pf.1) = some "OperationProps" := by decide +kernel

end SpecModel.Props.C19
