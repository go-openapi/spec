/-
C13 — Reference values (URL part): `NormalizeURL` is idempotent and the classification of a reference
(five flags, `IsRoot`, `IsCanonical`) is a function of the normalised URL.

Model: SpecModel/Url/Url.lean (`normalizeURL`, `Ref.new` = `jsonreference.New` on a parsed URL).
The JSON / gob codec part of C13 lives with the codec models.  At the text level (second half of the file): the
printed text of a reference that parses is a fixed point of parse+print (`printing_is_idempotent`, from
`urlString_idem` of `Codec/UrlIdem.lean`).
-/
import SpecModel.Url.Lemmas
import SpecModel.Codec.UrlIdem
import SpecModel.KernelEval

namespace SpecModel.Props.C13
open SpecModel.Url

/-- The host has at most one port: at most one `:`. -/
abbrev OnePort (u : URL) : Prop := u.host.toList.count ':' ≤ 1

/-- `NormalizeURL` is idempotent when the host has at most one port. -/
theorem normalizeURL_idem (u : URL) (h : OnePort u) : normalizeURL (normalizeURL u) = normalizeURL u :=
  normalizeURL_idem_of (not_stacked_of_one_colon h)

example : OnePort ⟨"HTTP", "H.Com:80", "/a//b", "q", "f"⟩ ∧
    normalizeURL ⟨"HTTP", "H.Com:80", "/a//b", "q", "f"⟩ = ⟨"http", "h.com", "/a/b", "q", "f"⟩ := by
  decide +kernel

/-- The exact condition: idempotent unless the scheme's default port is stacked on itself
(`…:80:80` for http, `…:443:443` for https), compared after lower-casing. -/
theorem normalizeURL_idem_exact (u : URL) (h : ¬ StackedPort (lower u.scheme) (lowerL u.host.toList)) :
    normalizeURL (normalizeURL u) = normalizeURL u :=
  normalizeURL_idem_of h

example : ¬ StackedPort (lower "http") (lowerL "h:8080:80".toList) := by
  unfold StackedPort
  rw [← List.isSuffixOf_iff_suffix, ← List.isSuffixOf_iff_suffix]
  decide +kernel

/-- Outside that domain idempotence fails (known finding: the regular expression removes one `:80` per pass). -/
theorem normalizeURL_not_idem_stacked :
    normalizeURL (normalizeURL ⟨"http", "h:80:80", "", "", ""⟩) ≠ normalizeURL ⟨"http", "h:80:80", "", "", ""⟩ := by
  decide +kernel

/-- The classification is a function of the normalised URL: building a reference from the URL of a
reference gives the same reference. -/
theorem flags_function_of_url (u : URL) (h : OnePort u) : Ref.new (Ref.new u).url = Ref.new u :=
  congrArg Ref.classify (normalizeURL_idem u h)

example : OnePort ⟨"File", "", "//r//root.json", "", "/definitions/x"⟩ ∧
    (Ref.new ⟨"File", "", "//r//root.json", "", "/definitions/x"⟩).flags = [false, true, false, true, true] ∧
    (Ref.new ⟨"File", "", "//r//root.json", "", "/definitions/x"⟩).isCanonical = true := by
  decide +kernel

/-- Flags, `IsRoot` and `IsCanonical` are determined by the URL of the reference (no other state). -/
theorem ref_determined_by_url (u v : URL) (h : (Ref.new u).url = (Ref.new v).url) : Ref.new u = Ref.new v :=
  congrArg Ref.classify h

example : (Ref.new ⟨"HTTP", "h.com:80", "/a", "", ""⟩).url = (Ref.new ⟨"http", "H.com", "//a", "", ""⟩).url := by
  decide +kernel

/-! ### text level: parse → print is idempotent

`Codec.urlString` models `NewRef(s).String()` (url.Parse, jsonreference normalisation, URL.String) on the tame
grammar of Codec/Url.lean, and is tied to the code by the `refprint` correspondence of this property (and, for the
`$ref` / `$schema` members of whole documents, by the `norm` correspondence of the codec properties). -/

open SpecModel.Codec in
/-- Printing a parsed reference gives a text that parses and prints as itself: whatever `s` is (escapes, blanks,
non-ASCII, with or without authority and fragment), if it parses, its printed form is a fixed point. -/
theorem printing_is_idempotent {s t : String} (h : urlString s = .ok t) : urlString t = .ok t :=
  urlString_idem h

/-- one more parse/print round on a result -/
def again : SpecModel.Codec.UrlRes → SpecModel.Codec.UrlRes
  | .ok x => SpecModel.Codec.urlString x
  | r => r

open SpecModel.Codec in
/-- hence a printed reference survives any number of further parse/print rounds (the JSON and gob codecs of `Ref`
carry exactly this text) -/
theorem printed_text_is_stable {s t : String} (h : urlString s = .ok t) (n : Nat) :
    Nat.repeat again n (.ok t) = .ok t := by
  induction n with
  | zero => rfl
  | succ k ih =>
    show again (Nat.repeat again k (.ok t)) = .ok t
    rw [ih]; exact urlString_idem h

open SpecModel.Codec in
example : urlString "http://h.example/a b/é.json#/definitions/x y" =
    .ok "http://h.example/a%20b/%C3%A9.json#/definitions/x%20y" := by decide +kernel

open SpecModel.Codec in
example : urlString "../models/tree node.json#/definitions/a~1b" = .ok "../models/tree%20node.json#/definitions/a~1b" := by
  rw [urlString, toList_eq_fast]
  decide +kernel

end SpecModel.Props.C13
