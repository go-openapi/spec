/-
C08 — Expansion never fails silently.

About the algorithm (`Expand/Core.lean`; `W k = none` = missing document, missing pointer target, or a target
that is a string / number / boolean / array), for every finite world:
* `strict_error_iff` — strict mode fails IFF some reference reachable from the input is unresolvable: no
  silent failure and no spurious error;
* `continue_ok` — with ContinueOnError there is always a result;
* `continue_verbatim` — every unresolvable reference reachable from the input is still there, as it was;
* `continue_remaining` — whatever else remains is a cycle cut;
and per run (`Expand/Check.lean`): `run_continue_validated`.
The model is tied to the code on faulted graphs by the `xexpand` status correspondence (error / no error).
-/
import SpecModel.Props.ExpandCore
import SpecModel.Expand.Check
import SpecModel.Expand.SideConditions

namespace SpecModel.Props.C08
open SpecModel.Expand SpecModel.Props

variable {K L : Type} [DecidableEq K]

theorem strict_error_iff {W : World K L} {ks : List K} (hW : FiniteWorld W ks) (t : Tree K L) {n : Nat}
    (hn : ExpandCore.fuelBound W ks t ≤ n) :
    (∃ k, expand W false n [] [] t = .err k) ↔ ∃ k, ReachFrom W t k ∧ W k = none :=
  ExpandCore.strict_error_iff hW t hn

theorem continue_ok {W : World K L} {ks : List K} (hW : FiniteWorld W ks) (p m : List K) (t : Tree K L)
    {n : Nat} (hn : ExpandCore.fuelBound W ks t ≤ n) : ∃ r, expand W true n p m t = .ok r :=
  ExpandCore.continue_ok hW p m t hn

theorem continue_verbatim {W : World K L} {n : Nat} {m' : List K} {t t' : Tree K L} {k : K}
    (h : expand W true n [] [] t = .ok (t', m')) (hr : ReachFrom W t k) (hk : W k = none) : k ∈ refsOf t' :=
  ExpandCore.continue_verbatim h hr hk

theorem continue_remaining {W : World K L} {n : Nat} {m' : List K} {t t' : Tree K L}
    (h : expand W true n [] [] t = .ok (t', m')) : ∀ k, k ∈ refsOf t' → OnCycle W k ∨ W k = none :=
  ExpandCore.continue_remaining h

theorem run_continue_validated [DecidableEq L] {W : World K L} {n : Nat} {t' : Tree K L}
    (h : checkCutsOrDangling W n t' = true) : ∀ k, k ∈ refsOf t' → W k = none ∨ OnCycle W k :=
  checkCutsOrDangling_sound h

example : expand ExpandCore.Wx false 40 [] [] ExpandCore.tBad = .err 9 := ExpandCore.run_tBad
example : ∃ r, expand ExpandCore.Wx true 40 [] [] ExpandCore.tBad = .ok r :=
  continue_ok ExpandCore.finiteWorld_Wx [] [] ExpandCore.tBad (by decide)


/-! ### Side condition on the shape of expander.go (regenerated facts, `decide`) -/

/-- no recursive call of the expander drops an error: each is tested by `shouldStopOnError` or returned -/
theorem side_errors_propagated : SpecModel.Expand.Side.errorsPropagated SpecModel.Gen.expandErrorSites = true := by decide +kernel

end SpecModel.Props.C08
