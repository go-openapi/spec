/-
C20 — Validation accessors are lossless and the clear operations are exact.

The definitions these theorems are about live in `SpecModel.Generated.Validations`, which is re-translated
from /repo's validations.go / schema.go on every run.
-/
import SpecModel.Generated.Validations

namespace SpecModel.Props.C20
open SpecModel.Gen SpecModel.ValidationsPrelude

/-! ### read-then-write and write-then-read -/

/-- Writing a set on a simple carrier overwrites each of its twelve fields: what is left is the set's own record
(a record is the tuple of its fields). The statements about simple carriers below are instances of this. -/
theorem common_set (v : CommonValidations) (val : SchemaValidations) :
    v.SetValidations val = val.CommonValidations := rfl

/-- Reading the validation set of a simple carrier and writing it back changes nothing. -/
theorem common_set_get (v : CommonValidations) : v.SetValidations v.Validations = v := common_set v _

/-- Writing a set on a simple carrier makes exactly its simple-schema validations readable back
(object validations are documented as ignored by simple carriers). -/
theorem common_get_set (v : CommonValidations) (val : SchemaValidations) :
    (v.SetValidations val).Validations = { SchemaValidations.zero with CommonValidations := val.CommonValidations } :=
  congrArg CommonValidations.Validations (common_set v val)

theorem schemaValidations_set_get (v : SchemaValidations) : v.SetValidations v.Validations = v := by
  cases v; rename_i c _ _ _; cases c; rfl

theorem schemaValidations_get_set (v val : SchemaValidations) : (v.SetValidations val).Validations = val := by
  cases v; cases val; rename_i c _ _ _ d _ _ _; cases c; cases d; rfl

theorem schema_set_get (s : Schema) : s.SetValidations s.Validations = s := by
  cases s; rename_i _ p _ _; cases p; rfl

theorem schema_get_set (s : Schema) (val : SchemaValidations) : (s.SetValidations val).Validations = val := by
  cases s; cases val; rename_i _ p _ _ c _ _ _; cases p; cases c; rfl

/-- Writing a set on a schema touches the fifteen validation fields only. -/
theorem schema_set_frame (s : Schema) (val : SchemaValidations) :
    s.SetValidations val =
      { s with SchemaProps := { s.SchemaProps with
          Maximum := val.CommonValidations.Maximum, ExclusiveMaximum := val.CommonValidations.ExclusiveMaximum,
          Minimum := val.CommonValidations.Minimum, ExclusiveMinimum := val.CommonValidations.ExclusiveMinimum,
          MaxLength := val.CommonValidations.MaxLength, MinLength := val.CommonValidations.MinLength,
          Pattern := val.CommonValidations.Pattern, MaxItems := val.CommonValidations.MaxItems,
          MinItems := val.CommonValidations.MinItems, UniqueItems := val.CommonValidations.UniqueItems,
          MultipleOf := val.CommonValidations.MultipleOf, Enum := val.CommonValidations.Enum,
          MinProperties := val.MinProperties, MaxProperties := val.MaxProperties,
          PatternProperties := val.PatternProperties } } := by
  rfl

/-! the three carriers that embed `CommonValidations`: their accessors go through the embedded record -/

theorem parameter_set_frame (p : Parameter) (val : SchemaValidations) :
    p.SetValidations val = { p with CommonValidations := val.CommonValidations } :=
  congrArg (fun c => { p with CommonValidations := c }) (common_set _ val)
theorem parameter_set_get (p : Parameter) : p.SetValidations p.Validations = p := parameter_set_frame p _
theorem parameter_get_set (p : Parameter) (val : SchemaValidations) :
    (p.SetValidations val).Validations = { SchemaValidations.zero with CommonValidations := val.CommonValidations } :=
  common_get_set _ val

theorem header_set_frame (p : Header) (val : SchemaValidations) :
    p.SetValidations val = { p with CommonValidations := val.CommonValidations } :=
  congrArg (fun c => { p with CommonValidations := c }) (common_set _ val)
theorem header_set_get (p : Header) : p.SetValidations p.Validations = p := header_set_frame p _
theorem header_get_set (p : Header) (val : SchemaValidations) :
    (p.SetValidations val).Validations = { SchemaValidations.zero with CommonValidations := val.CommonValidations } :=
  common_get_set _ val

theorem items_set_frame (p : Items) (val : SchemaValidations) :
    p.SetValidations val = { p with CommonValidations := val.CommonValidations } :=
  congrArg (fun c => { p with CommonValidations := c }) (common_set _ val)
theorem items_set_get (p : Items) : p.SetValidations p.Validations = p := items_set_frame p _
theorem items_get_set (p : Items) (val : SchemaValidations) :
    (p.SetValidations val).Validations = { SchemaValidations.zero with CommonValidations := val.CommonValidations } :=
  common_get_set _ val

/-! ### clear operations

The specification of a clear: which (keyword, previous value) pairs a family holds. Written independently of
the code (the standard says which keyword belongs to which family); order is the documentation order. -/

def present (k : String) (v : Val) (isSet : Bool) : List (String × Val) := if isSet then [(k, v)] else []

def numberFamily (v : CommonValidations) : List (String × Val) :=
  present "minimum" (.optInt v.Minimum) v.Minimum.isSome ++
  present "maximum" (.optInt v.Maximum) v.Maximum.isSome ++
  present "exclusiveMaximum" (.bool v.ExclusiveMaximum) v.ExclusiveMaximum ++
  present "exclusiveMinimum" (.bool v.ExclusiveMinimum) v.ExclusiveMinimum ++
  present "multipleOf" (.optInt v.MultipleOf) v.MultipleOf.isSome

def stringFamily (v : CommonValidations) : List (String × Val) :=
  present "pattern" (.str v.Pattern) (v.Pattern != "") ++
  present "minLength" (.optInt v.MinLength) v.MinLength.isSome ++
  present "maxLength" (.optInt v.MaxLength) v.MaxLength.isSome

def arrayFamily (v : CommonValidations) : List (String × Val) :=
  present "maxItems" (.optInt v.MaxItems) v.MaxItems.isSome ++
  present "minItems" (.optInt v.MinItems) v.MinItems.isSome ++
  present "uniqueItems" (.bool v.UniqueItems) v.UniqueItems

def objectFamily (v : SchemaValidations) : List (String × Val) :=
  present "maxProperties" (.optInt v.MaxProperties) v.MaxProperties.isSome ++
  present "minProperties" (.optInt v.MinProperties) v.MinProperties.isSome ++
  present "patternProperties" (.props v.PatternProperties) v.PatternProperties.isSome

/-- What every callback must see: each removed pair exactly once per callback, callbacks in order. -/
def expectedTrace (removed : List (String × Val)) (ncb : Nat) : List (Nat × String × Val) :=
  (List.range ncb).flatMap fun i => removed.map fun c => (i, c.1, c.2)

/-- Clearing the number family zeroes exactly its five fields (every other field is the old one),
and reports exactly the pairs that were present, once to each callback. -/
theorem clearNumber_exact (v : CommonValidations) (ncb : Nat) :
    v.ClearNumberValidations ncb =
      ({ v with Minimum := none, Maximum := none, ExclusiveMaximum := false, ExclusiveMinimum := false, MultipleOf := none },
       expectedTrace (numberFamily v) ncb) := by
  obtain ⟨mx, emx, mn, emn, _, _, _, _, _, _, mo, _⟩ := v
  cases mx <;> cases mn <;> cases mo <;> cases emx <;> cases emn <;> rfl

theorem clearNumber_has (v : CommonValidations) (ncb : Nat) :
    (v.ClearNumberValidations ncb).1.HasNumberValidations = false := by
  rw [clearNumber_exact]; rfl

theorem clearString_exact (v : CommonValidations) (ncb : Nat) :
    v.ClearStringValidations ncb =
      ({ v with Pattern := "", MinLength := none, MaxLength := none }, expectedTrace (stringFamily v) ncb) := by
  obtain ⟨_, _, _, _, mxl, mnl, pat, _, _, _, _, _⟩ := v
  by_cases hp : pat = "" <;> cases mxl <;> cases mnl <;>
    simp [CommonValidations.ClearStringValidations, stringFamily, present, expectedTrace, clearedValidations.apply, hp]

theorem clearString_has (v : CommonValidations) (ncb : Nat) :
    (v.ClearStringValidations ncb).1.HasStringValidations = false := by
  rw [clearString_exact]; rfl

theorem clearArray_exact (v : CommonValidations) (ncb : Nat) :
    v.ClearArrayValidations ncb =
      ({ v with MaxItems := none, MinItems := none, UniqueItems := false }, expectedTrace (arrayFamily v) ncb) := by
  obtain ⟨_, _, _, _, _, _, _, mxi, mni, u, _, _⟩ := v
  cases mxi <;> cases mni <;> cases u <;> rfl

theorem clearArray_has (v : CommonValidations) (ncb : Nat) :
    (v.ClearArrayValidations ncb).1.HasArrayValidations = false := by
  rw [clearArray_exact]; rfl

theorem clearObject_exact (v : SchemaValidations) (ncb : Nat) :
    v.ClearObjectValidations ncb =
      ({ v with MaxProperties := none, MinProperties := none, PatternProperties := none },
       expectedTrace (objectFamily v) ncb) := by
  obtain ⟨_, pp, mxp, mnp⟩ := v
  cases pp <;> cases mxp <;> cases mnp <;> rfl

theorem clearObject_has (v : SchemaValidations) (ncb : Nat) :
    (v.ClearObjectValidations ncb).1.HasObjectValidations = false := by
  rw [clearObject_exact]; rfl

/-- "exactly once per callback": the trace seen by callback `i` is the removed list, for every `i < ncb`. -/
theorem expectedTrace_per_callback (removed : List (String × Val)) (ncb i : Nat) (h : i < ncb) :
    ((expectedTrace removed ncb).filter (fun c => c.1 == i)).map (fun c => (c.2.1, c.2.2)) = removed := by
  -- callback `i` sees `removed` once for every occurrence of `i` among the callback numbers
  have seen : ∀ js : List Nat, ((js.flatMap fun j => removed.map fun c => (j, c.1, c.2)).filter (fun c => c.1 == i)).map
      (fun c => (c.2.1, c.2.2)) = (js.filter (· == i)).flatMap fun _ => removed := by
    intro js
    induction js with
    | nil => rfl
    | cons j js ih =>
      rw [List.flatMap_cons, List.filter_append, List.map_append, ih, List.filter_cons]
      cases hj : j == i <;> simp [List.filter_map, Function.comp_def, hj]
  rw [expectedTrace, seen, List.filter_beq, List.count_range, if_pos h]
  exact List.append_nil removed

/-- The promoted clear operations on parameters, headers and items change the embedded validations only. -/
theorem parameter_clearNumber_frame (p : Parameter) (ncb : Nat) :
    p.ClearNumberValidations ncb =
      ({ p with CommonValidations := (p.CommonValidations.ClearNumberValidations ncb).1 },
       (p.CommonValidations.ClearNumberValidations ncb).2) := rfl
theorem parameter_clearString_frame (p : Parameter) (ncb : Nat) :
    p.ClearStringValidations ncb =
      ({ p with CommonValidations := (p.CommonValidations.ClearStringValidations ncb).1 },
       (p.CommonValidations.ClearStringValidations ncb).2) := rfl
theorem parameter_clearArray_frame (p : Parameter) (ncb : Nat) :
    p.ClearArrayValidations ncb =
      ({ p with CommonValidations := (p.CommonValidations.ClearArrayValidations ncb).1 },
       (p.CommonValidations.ClearArrayValidations ncb).2) := rfl
theorem header_clearNumber_frame (p : Header) (ncb : Nat) :
    p.ClearNumberValidations ncb =
      ({ p with CommonValidations := (p.CommonValidations.ClearNumberValidations ncb).1 },
       (p.CommonValidations.ClearNumberValidations ncb).2) := rfl
theorem header_clearString_frame (p : Header) (ncb : Nat) :
    p.ClearStringValidations ncb =
      ({ p with CommonValidations := (p.CommonValidations.ClearStringValidations ncb).1 },
       (p.CommonValidations.ClearStringValidations ncb).2) := rfl
theorem header_clearArray_frame (p : Header) (ncb : Nat) :
    p.ClearArrayValidations ncb =
      ({ p with CommonValidations := (p.CommonValidations.ClearArrayValidations ncb).1 },
       (p.CommonValidations.ClearArrayValidations ncb).2) := rfl
theorem items_clearNumber_frame (p : Items) (ncb : Nat) :
    p.ClearNumberValidations ncb =
      ({ p with CommonValidations := (p.CommonValidations.ClearNumberValidations ncb).1 },
       (p.CommonValidations.ClearNumberValidations ncb).2) := rfl
theorem items_clearString_frame (p : Items) (ncb : Nat) :
    p.ClearStringValidations ncb =
      ({ p with CommonValidations := (p.CommonValidations.ClearStringValidations ncb).1 },
       (p.CommonValidations.ClearStringValidations ncb).2) := rfl
theorem items_clearArray_frame (p : Items) (ncb : Nat) :
    p.ClearArrayValidations ncb =
      ({ p with CommonValidations := (p.CommonValidations.ClearArrayValidations ncb).1 },
       (p.CommonValidations.ClearArrayValidations ncb).2) := rfl

/-- `has` queries say exactly whether the family list is non-empty (so they are false iff nothing would be
reported), except for the two exclusive flags, which `HasNumberValidations` does not count. -/
theorem hasString_iff (v : CommonValidations) : v.HasStringValidations = !(stringFamily v).isEmpty := by
  obtain ⟨_, _, _, _, mxl, mnl, pat, _, _, _, _, _⟩ := v
  by_cases hp : pat = "" <;> cases mxl <;> cases mnl <;>
    simp [CommonValidations.HasStringValidations, stringFamily, present, hp]

theorem hasArray_iff (v : CommonValidations) : v.HasArrayValidations = !(arrayFamily v).isEmpty := by
  obtain ⟨_, _, _, _, _, _, _, mxi, mni, u, _, _⟩ := v
  cases mxi <;> cases mni <;> cases u <;> rfl

theorem hasObject_iff (v : SchemaValidations) : v.HasObjectValidations = !(objectFamily v).isEmpty := by
  obtain ⟨_, pp, mxp, mnp⟩ := v
  cases pp <;> cases mxp <;> cases mnp <;> rfl

/-! non-vacuity: a concrete carrier with every family populated -/
def sample : CommonValidations :=
  { Maximum := some 0, ExclusiveMaximum := true, Minimum := some 0, ExclusiveMinimum := false, MaxLength := some 0,
    MinLength := some 3, Pattern := "^a", MaxItems := some 0, MinItems := none, UniqueItems := true,
    MultipleOf := some 0, Enum := some [] }

example : (sample.ClearNumberValidations 2).2.length = 8 := by decide
example : numberFamily sample ≠ [] ∧ stringFamily sample ≠ [] ∧ arrayFamily sample ≠ [] := by decide

end SpecModel.Props.C20
