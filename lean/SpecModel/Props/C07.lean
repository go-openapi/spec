/-
C07 — Decoding is total and its normalisation is idempotent.

Totality: `norm` (`SpecModel/Codec/Norm.lean`) is a total Lean function into `Except`; every partial
operation of the Go decoders (first-byte dispatch, type assertions on the generic map, nil maps) is an explicit
branch of it, and the `norm` correspondence compares it with the real decoders on the malformed stream of the
harness on every run — this part is carried by the correspondence, not by a theorem.

Idempotence for WHOLE DOCUMENTS of every kind (`encoding_is_idempotent`, from `Codec/Idem.lean`):

    norm K j = ok j₁  →  Clean j₁  →  norm K j₁ = ok j₁

where `Clean` is a decidable, kind-agnostic condition on the first output: no member with value `null`, no
member name that is a case variant of a keyword (the property's own exception) or an upper-case `X-` spelling
of the extension prefix, numbers exactly representable in a float64 (that the printed `$ref`/`$schema` texts are
fixed under the URL printing model is proved inside, from `urlString_idem`, not assumed).  Side conditions on the
REGENERATED tables are discharged by `decide` (`idem_tables_ok`).  Without `Clean` the statement is FALSE on the
current tree (K-C07-1 below: the first output holds `"items": null`, which is exactly what `Clean` excludes).

Idempotence of the components, without any hypothesis on the output:
* free-form payloads (`default`, `example`, `enum`, extension values, unknown schema keywords): one decode+encode
  reaches a fixed point (`payload_idempotent`);
* Go maps: printing and reading again gives the same map (`go_map_idempotent`);
* `properties` / `patternProperties`: sorting the sorted member list changes nothing (`properties_idempotent`);
* `StringOrArray` (`stringOrArray_idempotent`).
The unconditional statement `norm K j = ok j₁ → norm K j₁ = ok j₁` is FALSE on the current tree: `items` holding
a scalar is accepted, printed as `null`, and `null` then leaves the field empty (known finding K-C07-1); the
mechanism is exhibited below (`items_scalar_not_fixed`).
-/
import SpecModel.Codec.SortLemmas
import SpecModel.Codec.Idem
import SpecModel.Codec.Fuel
import SpecModel.Props.C06

namespace SpecModel.Props.C07
open SpecModel SpecModel.Codec

theorem payload_idempotent {j j' : Json} (h : normAny j = .ok j') : normAny j' = .ok j' := normAny_idem h

example : normAny (.obj [("b", .num 1), ("a", .arr [.obj [("z", .null), ("y", .null)]]), ("b", .num 2)])
    = .ok (.obj [("a", .arr [.obj [("y", .null), ("z", .null)]]), ("b", .num 2)]) := by decide +kernel

theorem extension_members_idempotent {ms ys : List (String × Json)} (h : normAnyMembers ms = .ok ys) :
    normAnyMembers ys = .ok ys :=
  have ⟨h1, h2⟩ := normAnyMembers_goAny h
  normAnyMembers_of_goAny h1 h2

theorem go_map_idempotent (ms : List (String × Json)) : toGoMap (toGoMap ms) = toGoMap ms := toGoMap_idem ms

theorem properties_idempotent {l : List (String × Json)} (hn : (l.map (·.1)).Nodup) :
    sortBy lessItem (sortBy lessItem l) = sortBy lessItem l :=
  (sortBy_lessItem_perm_invariant (sortBy_perm lessItem l).symm hn).symm

theorem stringOrArray_idempotent {j j' : Json} (h : normStringOrArray j = .ok j') : normStringOrArray j' = .ok j' :=
  normStringOrArray_second h

example : normStringOrArray (.arr [.str "a"]) = .ok (.str "a") := rfl

/-! ### The known non-fixed-point (K-C07-1): a scalar `items`

`SchemaOrArray.UnmarshalJSON` leaves the zero value for anything that is neither an object nor an array; the
zero value prints as `null`; a `null` member then leaves the pointer field nil, which `omitempty` drops. -/
theorem items_scalar_not_fixed (rec : Rec) :
    normSchemaOrArray rec (.bool true) = .ok .null ∧
    decodeField rec (.ptrNamed "SchemaOrArray") none .null = .ok none := ⟨rfl, rfl⟩

/-! ### Whole documents -/

/-- side conditions on the tables regenerated from /repo on this run: the C06 ones (names pairwise distinct
inside and across the parts of every kind), every Schema field is `omitempty` (so that a `null` schema, printed
as `{}`, reads back as `{}`), and no regular kind decodes a part it never encodes -/
theorem idem_tables_ok : IdemTablesOK := ⟨C06.tables_ok, by decide +kernel, by decide +kernel⟩

/-- **Normalisation is idempotent on clean outputs, for every kind and every input.**
(`norm` derives its recursion budget from its input; `Codec/Fuel.lean` shows that budget is always enough:
whatever any budget returns, `norm` returns — `norm_of_normF`, from fuel monotonicity and a depth bound on the
calls each codec makes.) -/
theorem encoding_is_idempotent (k : String) (j j₁ : Json) (h : norm k j = .ok j₁) (hc : Clean j₁) :
    norm k j₁ = .ok j₁ :=
  norm_of_normF (normF_idem idem_tables_ok _ k j j₁ h hc)

/-- the recursion budget is irrelevant to successful runs: more never changes the answer, and `norm`'s own is enough -/
theorem budget_irrelevant {n : Nat} {k : String} {j r : Json} (h : normF n (.kind k) j = .ok r) :
    norm k j = .ok r ∧ ∀ m, n ≤ m → normF m (.kind k) j = .ok r :=
  ⟨norm_of_normF h, fun _ hm => normF_mono hm _ _ _ h⟩

/-- the same at any recursion budget: whatever budget produced `j₁`, that budget reproduces it -/
theorem encoding_is_idempotent_at (fuel : Nat) (k : String) (j j₁ : Json)
    (h : normF fuel (.kind k) j = .ok j₁) (hc : Clean j₁) : normF fuel (.kind k) j₁ = .ok j₁ :=
  normF_idem idem_tables_ok fuel k j j₁ h hc

/-! non-vacuity: a concrete document that is reordered by the first pass, whose output is `Clean` -/

instance (k : String) : Decidable (NameOK k) := by unfold NameOK; exact inferInstance

example : norm "license" (.obj [("url", .str "u"), ("name", .str "MIT"), ("x-a", .num 1)])
    = .ok (.obj [("name", .str "MIT"), ("url", .str "u"), ("x-a", .num 1)]) := by decide +kernel

set_option maxRecDepth 100000 in
example : Clean (.obj [("name", .str "MIT"), ("url", .str "u"), ("x-a", .num 1)]) :=
  cleanB_sound _ (by
    simp only [cleanB, cleanMB, nameOKB, foldName, isExtKey, hasXPrefix, toList_eq_fast]
    decide +kernel)

/-- `Clean` is not trivially true: the output behind K-C07-1 is rejected, and so is a case variant of a keyword -/
example : ¬ Clean (.obj [("items", .null)]) := by simp [Clean, CleanM]
set_option maxRecDepth 100000 in
example : ¬ NameOK "Title" := by decide +kernel
set_option maxRecDepth 100000 in
example : ¬ NameOK "X-internal" := fun h => absurd (h.2 (by decide +kernel)) (by decide +kernel)

end SpecModel.Props.C07
