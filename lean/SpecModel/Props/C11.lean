/-
C11 — Equivalent spellings of the root location.

`normalizeBase cwd u` is /repo/normalizer.go `normalizeBase` on an already parsed URL `u`, with the working
directory as a parameter (model: SpecModel/Url/Normalizer.lean; lemmas: SpecModel/Url/Lemmas.lean).
-/
import SpecModel.Url.Lemmas

namespace SpecModel.Props.C11
open SpecModel.Url SpecModel.Url.Path

/-- (1) Normalising a normalised base changes nothing. -/
theorem normalizeBase_idem {cwd : String} (hc : CwdOk cwd) (u : URL) :
    normalizeBase cwd (normalizeBase cwd u) = normalizeBase cwd u := by
  by_cases h : u.scheme = "" ∨ u.scheme = "file"
  · rw [normalizeBase_local cwd h, normalizeBase_local cwd (.inr rfl), cleanPath_absPath hc,
      absPath_of_abs_fixed (absPath_abs hc _) (absPath_clean hc _)]
  · obtain ⟨h1, h2⟩ := not_or.mp h
    rw [normalizeBase_remote cwd h1 h2,
      normalizeBase_remote cwd (u := { u with path := cleanPath u.path, fragment := "" }) h1 h2, cleanPath_idem]

example : CwdOk "/home/u" ∧
    normalizeBase "/home/u" (normalizeBase "/home/u" ⟨"", "", "a/../spec//root.json", "q=1", "/definitions/x"⟩)
      = ⟨"file", "", "/home/u/spec/root.json", "", ""⟩ := by
  have hc : CwdOk "/home/u" := by decide +kernel
  exact ⟨hc, (normalizeBase_idem hc _).trans (by decide +kernel)⟩

/-- (2) The result is canonical: it has a scheme, no fragment, a path that is empty or cleaned, and for the
`file` scheme an absolute path. -/
theorem normalizeBase_canonical {cwd : String} (hc : CwdOk cwd) (u : URL) :
    let n := normalizeBase cwd u
    n.scheme ≠ "" ∧ n.fragment = "" ∧ (n.path = "" ∨ clean n.path = n.path) ∧
      (n.scheme = "file" → isAbs n.path = true) := by
  by_cases h : u.scheme = "" ∨ u.scheme = "file"
  -- `dsimp only` computes the fields of the record first: given `n.path =?= absPath cwd ?p` the unifier unfolds
  -- `absPath` (and `clean` under it) before it reduces the projection, which is very slow
  · rw [normalizeBase_local cwd h]
    dsimp only
    exact ⟨(by decide : "file" ≠ ""), rfl, .inr (absPath_clean hc _), fun _ => absPath_abs hc _⟩
  · obtain ⟨h1, h2⟩ := not_or.mp h
    rw [normalizeBase_remote cwd h1 h2]
    dsimp only
    exact ⟨h1, rfl, cleanPath_fixed _, fun hf => absurd hf h2⟩

example : CwdOk "/w" ∧ normalizeBase "/w" ⟨"file", "", "x/./y.json", "", "f"⟩ = ⟨"file", "", "/w/x/y.json", "", ""⟩ := by
  decide +kernel

/-- (3) Spelling invariance: the result depends on the path only through `clean`. -/
theorem spelling_invariant (cwd : String) (u : URL) {p p' : String} (h : clean p = clean p') :
    normalizeBase cwd { u with path := p } = normalizeBase cwd { u with path := p' } := by
  unfold normalizeBase cleanPath
  simp only [h]

example : clean "/r/./x/../root.json" = clean "/r//root.json" ∧
    normalizeBase "/w" ⟨"file", "", "/r/./x/../root.json", "", ""⟩ = normalizeBase "/w" ⟨"file", "", "/r//root.json", "", ""⟩ := by
  have h : clean "/r/./x/../root.json" = clean "/r//root.json" :=
    (by decide +kernel : _ = "/r/root.json").trans (by decide +kernel : _ = "/r/root.json").symm
  exact ⟨h, spelling_invariant "/w" ⟨"file", "", "", "", ""⟩ h⟩

/-! The spelling rewrites of the property preserve `clean` (these are facts about Go's `path.Clean`). -/

/-- inserting a `.` element -/
theorem clean_insert_dot (a b : String) : clean (a ++ "/./" ++ b) = clean (a ++ "/" ++ b) :=
  clean_congr (by simpa using cleanL_insert_dot a.toList b.toList)

example : clean ("/r" ++ "/./" ++ "root.json") = "/r/root.json" := by decide +kernel

/-- doubling a slash -/
theorem clean_double_slash (a b : String) : clean (a ++ "//" ++ b) = clean (a ++ "/" ++ b) :=
  clean_congr (by simpa using cleanL_double_slash a.toList b.toList)

example : clean ("/r" ++ "//" ++ "root.json") = "/r/root.json" := by decide +kernel

/-- A plain path element: non-empty, without `/`, and neither `.` nor `..`. -/
def PlainSeg (x : String) : Prop := x ≠ "" ∧ x ≠ "." ∧ x ≠ ".." ∧ '/' ∉ x.toList

instance (x : String) : Decidable (PlainSeg x) := by unfold PlainSeg; infer_instance

/-- inserting `x/..` for a plain element `x` -/
theorem clean_insert_updown (a b x : String) (hx : PlainSeg x) :
    clean (a ++ "/" ++ x ++ "/../" ++ b) = clean (a ++ "/" ++ b) := by
  obtain ⟨h1, h2, h3, h4⟩ := hx
  have hp : Plain x.toList := by
    refine ⟨toList_ne_nil h1, ?_, ?_⟩
    · intro e; exact h2 (String.toList_inj.mp (by rw [e]; decide))
    · intro e; exact h3 (String.toList_inj.mp (by rw [e]; decide))
  exact clean_congr (by simpa using cleanL_insert_updown a.toList b.toList hp h4)

example : PlainSeg "tmp" ∧ clean ("/r" ++ "/" ++ "tmp" ++ "/../" ++ "root.json") = "/r/root.json" := by
  decide +kernel

/-- adding a trailing slash -/
theorem clean_trailing_slash (a : String) (h : a ≠ "") : clean (a ++ "/") = clean a :=
  clean_congr (by simpa using cleanL_trailing_slash (toList_ne_nil h))

example : clean ("/r/root.json" ++ "/") = "/r/root.json" := by decide +kernel

/-- a leading `./` on a relative path -/
theorem clean_leading_dot (b : String) (h : isAbs b = false) : clean ("./" ++ b) = clean b :=
  clean_congr (by simpa using cleanL_leading_dot h)

example : isAbs "r/root.json" = false ∧ clean ("./" ++ "r/root.json") = "r/root.json" := by
  decide +kernel

/-- (4) A fragment on the base is irrelevant. -/
theorem fragment_irrelevant (cwd : String) (u : URL) (f : String) :
    normalizeBase cwd { u with fragment := f } = normalizeBase cwd u := by
  unfold normalizeBase
  rfl

example : normalizeBase "/w" ⟨"http", "h.com", "/r/root.json", "", "/definitions/x"⟩ =
    normalizeBase "/w" ⟨"http", "h.com", "/r/root.json", "", ""⟩ :=
  fragment_irrelevant "/w" ⟨"http", "h.com", "/r/root.json", "", ""⟩ "/definitions/x"

/-- (5) A relative plain path and the same path anchored at the working directory are the same base. -/
theorem relative_is_anchored {cwd : String} (hc : CwdOk cwd) (u : URL) (hs : u.scheme = "") {p : String}
    (hp : isAbs p = false) :
    normalizeBase cwd { u with path := p } = normalizeBase cwd { u with path := join cwd p } := by
  have ha : isAbs (join cwd p) = true := isAbs_join hc.abs p
  have hf : clean (join cwd p) = join cwd p := clean_join (ne_empty_of_isAbs hc.abs) p
  rw [normalizeBase_local cwd (u := { u with path := p }) (.inl hs),
    normalizeBase_local cwd (u := { u with path := join cwd p }) (.inl hs)]
  dsimp only
  rw [cleanPath_of_fixed hf (ne_dot_of_isAbs ha), absPath_of_abs_fixed ha hf]
  simp [absPath, isAbs_cleanPath, hp, join_cleanPath (ne_empty_of_isAbs hc.abs) hp]

example : CwdOk "/home/u" ∧ isAbs "spec/../root.json" = false ∧
    normalizeBase "/home/u" ⟨"", "", "spec/../root.json", "", ""⟩ = ⟨"file", "", "/home/u/root.json", "", ""⟩ ∧
    normalizeBase "/home/u" ⟨"", "", join "/home/u" "spec/../root.json", "", ""⟩ = ⟨"file", "", "/home/u/root.json", "", ""⟩ := by
  obtain ⟨hc, hp, h⟩ : CwdOk "/home/u" ∧ isAbs "spec/../root.json" = false ∧
      normalizeBase "/home/u" ⟨"", "", "spec/../root.json", "", ""⟩ = ⟨"file", "", "/home/u/root.json", "", ""⟩ := by
    decide +kernel
  exact ⟨hc, hp, h, (relative_is_anchored hc ⟨"", "", "", "", ""⟩ rfl hp).symm.trans h⟩

/-- (6) For a local file (no scheme, or the `file` scheme) a query on the location is irrelevant. -/
theorem query_irrelevant_for_files (cwd : String) (u : URL) (q : String)
    (h : u.scheme = "" ∨ u.scheme = "file") :
    normalizeBase cwd { u with query := q } = normalizeBase cwd u := by
  rw [normalizeBase_local cwd (u := { u with query := q }) h, normalizeBase_local cwd h]

example : normalizeBase "/w" ⟨"file", "", "/r/root.json", "q=1", ""⟩ = normalizeBase "/w" ⟨"file", "", "/r/root.json", "", ""⟩ ∧
    normalizeBase "/w" ⟨"", "", "root.json", "q=1", ""⟩ = ⟨"file", "", "/w/root.json", "", ""⟩ :=
  ⟨query_irrelevant_for_files "/w" ⟨"file", "", "/r/root.json", "", ""⟩ "q=1" (.inr rfl), by decide +kernel⟩

end SpecModel.Props.C11
