/-
C14 — Gob transport preserves the document.

Model: `SpecModel/Codec/Gob.lean`, `gobJ kind j` = the JSON encoding after `gob` encode+decode of the value
whose JSON encoding is `j`, computed by kind from the GENERATED struct tables; tied to the real
`gob.Encoder`/`Decoder` on Swagger, Operation, Parameter, Schema, Response by the `gob` correspondence on every
run (the model has to predict the encoding after transport, losses included).

The unconditional statement `gobJ K j = j` is FALSE on the current tree (known findings K-C14-1, K-C14-2).
For WHOLE DOCUMENTS of every kind (`transport_preserves_safe_documents`, from `Codec/GobSafe.lean`):

    GobSafe j  →  gobJ K j = j

where `GobSafe` = no empty array anywhere and no member whose value is the number 0 — the two exclusions are the
two findings. Component lemmas and the witnesses of the findings:
* `payload_survives` — a free-form value (default / example / enum / examples / extension values / unknown schema
  keywords, nested mixtures with nulls and empty objects) without an empty array survives exactly;
  `empty_array_becomes_null` is the witness of K-C14-2;
* `zero_validation_lost` (witness of K-C14-1) and `nonzero_validation_kept`;
* `security_requirements_kept`, `strings_kept`, `flags_kept`: absent / empty / non-empty security requirements
  (also with empty scope lists), string and boolean members pass unchanged;
* `members_kept`, `kind_fixed`: a kind whose members are individually preserved is preserved (composition),
  so the statement for a whole document follows member by member under `GobSafe`-style hypotheses.
-/
import SpecModel.Codec.Gob
import SpecModel.Codec.GobSafe

namespace SpecModel.Props.C14
open SpecModel SpecModel.Codec

theorem payload_survives (j : Json) (h : NoEmptyArr j) : gobAny j = j := gobAny_of_noEmptyArr j h

example : NoEmptyArr (.obj [("a", .arr [.null, .obj [], .num 0, .str ""]), ("b", .obj [])]) := by
  simp [NoEmptyArr, NoEmptyArrL, NoEmptyArrM]

/-- K-C14-2 -/
theorem empty_array_becomes_null :
    gobAny (.arr []) = .null ∧
    gobAny (.obj [("k", .arr [.arr [], .num 1])]) = .obj [("k", .arr [.null, .num 1])] := ⟨rfl, rfl⟩

/-- K-C14-1 -/
theorem zero_validation_lost (rec : GRec) : gobFT rec .optFloat (.num 0) = none ∧ gobFT rec .optInt (.num 0) = none :=
  ⟨rfl, rfl⟩

theorem nonzero_validation_kept (rec : GRec) (n : Int) (h : n ≠ 0) :
    gobFT rec .optFloat (.num n) = some (.num n) ∧ gobFT rec .optInt (.num n) = some (.num n) :=
  match n, h with
  | .ofNat 0, h => absurd rfl h
  | .ofNat (_ + 1), _ | .negSucc _, _ => ⟨rfl, rfl⟩

/-- security requirements: the encoded value passes unchanged, whatever it is (`[]`, `[{}]`, `[{"k":[]}]`, …) -/
theorem security_requirements_kept (rec : GRec) (v : Json) : gobFT rec .secReqs v = some v := rfl

theorem strings_kept (rec : GRec) (v : Json) :
    gobFT rec .str v = some v ∧ gobFT rec .strs v = some v ∧ gobFT rec .strMap v = some v := ⟨rfl, rfl, rfl⟩

theorem flags_kept (rec : GRec) (v : Json) : gobFT rec .bool v = some v := rfl

/-- an extension member survives when its value has no empty array -/
theorem extension_member_kept (rec : GRec) (k : String) (fs : List Field) (name : String) (v : Json)
    (hx : isExtKey name = true) (hv : NoEmptyArr v) : gobMember rec k fs (name, v) = some (name, v) := by
  simp [gobMember, hx, gobAny_of_noEmptyArr v hv]

/-- composition: if every member of an object of kind `k` is preserved, the object is -/
theorem kind_fixed (rec : GRec) (k : String) (ms : List (String × Json))
    (h : ∀ m ∈ ms, gobMember rec k (fieldsOfKind k) m = some m) : gobKind rec k (.obj ms) = .obj ms :=
  congrArg Json.obj (filterMap_id_on h)

/-- lists and maps of preserved elements are preserved -/
theorem members_kept (f : Json → Json) (ms : List (String × Json)) (h : ∀ m ∈ ms, f m.2 = m.2) : mapVals f ms = ms :=
  map_id_on fun m hm => congrArg (Prod.mk m.1) (h m hm)

/-! ### Whole documents -/

/-- **gob transport preserves every document without an empty array and without a member equal to 0**, for every
kind and any nesting depth -/
theorem transport_preserves_safe_documents (k : String) (j : Json) (hs : GobSafe j) : gobJ k j = j :=
  gobJ_safe k j hs

/-- non-vacuity: an operation with nested kinds, security requirements with an empty scope list (an empty array of
strings would be excluded, so the scope list here is non-empty), extensions and validations -/
example : GobSafe (.obj [("operationId", .str "op"), ("security", .arr [.obj [("k", .arr [.str "s"])]]),
    ("parameters", .arr [.obj [("name", .str "p"), ("in", .str "query"), ("minimum", .num 1), ("x-a", .obj [])]]),
    ("responses", .obj [("200", .obj [("description", .str "")])])]) := by
  simp [GobSafe, NoEmptyArr, NoEmptyArrL, NoEmptyArrM, ZeroFree, ZeroFreeL, ZeroFreeM]

/-- the hypothesis is needed: the two findings are exactly its two exclusions -/
example : ¬ GobSafe (.obj [("minimum", .num 0)]) := by simp [GobSafe, ZeroFree, ZeroFreeM]
example : ¬ GobSafe (.obj [("default", .arr [])]) := by simp [GobSafe, NoEmptyArr, NoEmptyArrM]

end SpecModel.Props.C14
