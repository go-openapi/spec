/-
C02 — Expansion preserves the meaning of every element.

Specification side (`Expand/Sem.lean`): the meaning of an element is the possibly infinite tree obtained by
replacing, for ever, every `$ref` by its target ("a $ref replaces its holder"); `Equiv W t W' t'` says that `t`
read in world `W` and `t'` read in world `W'` denote the same tree at every depth.  A reference is a KEY: the
canonical target obtained by resolving the `$ref` against the document that textually contains it (RFC 3986,
C12) and evaluating the fragment (RFC 6901) — so "interpreted relative to the containing document" is built
into the abstraction the harness performs with `net/url`, independently of the code.

Two layers:
* about the ALGORITHM (`Expand/Core.lean`, a line-for-line abstraction of expandSchema / expandSchemaRef /
  isCircular; tied to the code by the `xexpand` correspondence, which reproduces the real output exactly on
  acyclic graphs): `expand_preserves_meaning` — for every world, stack, memo, fuel and both modes;
* about EVERY REAL RUN (`Expand/Check.lean`): `run_validated` — the executable checker that the driver runs on
  the abstraction of the actual input and output is sound, so an accepted run is meaning-preserving whatever
  the order in which Go's map iteration made the code visit things.
-/
import SpecModel.Props.ExpandCore
import SpecModel.Expand.Check
import SpecModel.Expand.SideFacts

namespace SpecModel.Props.C02
open SpecModel.Expand SpecModel.Props

variable {K L : Type} [DecidableEq K]

/-- the output of the model's expander, read in a world where any set of keys has been replaced by expansions
of their own targets (the live, partially expanded root document), denotes what the input denoted -/
theorem expand_preserves_meaning {W W' : World K L} (rs : List K)
    (hrs : ∀ k, k ∈ rs → ∃ s s' c n p m m', W k = some s ∧ expand W c n p m s = .ok (s', m') ∧ W' k = some s')
    (hother : ∀ k, k ∉ rs → W' k = W k)
    {c : Bool} {n : Nat} {p m m' : List K} {t t' : Tree K L} (h : expand W c n p m t = .ok (t', m')) :
    Equiv W t W' t' := ExpandCore.expand_preserves_meaning rs hrs hother h

/-- every key of the output world denotes what it denoted in the input world -/
theorem world_preserved {W W' : World K L} (hW : WorldExp W W') (k : K) : Equiv W (.ref k) W' (.ref k) :=
  exp_equiv hW (.keep k)

/-- **per run**: what the compiled checker accepts is meaning-preserving -/
theorem run_validated [DecidableEq L] {W W' : World K L} {n m : Nat} {ks : List K} {t t' : Tree K L}
    (hw : checkWorld W W' n ks = true) (hout : ∀ k, k ∉ ks → W k = none ∧ W' k = none)
    (he : checkExp W [] m t t' = true) : Equiv W t W' t' := check_sound hw hout he

/-- the meaning relation is an equivalence, and a reference means what its target means -/
theorem equiv_refl (W : World K L) (t : Tree K L) : Equiv W t W t := fun n => Sim.refl W n t
theorem equiv_symm {W W' : World K L} {t t' : Tree K L} (h : Equiv W t W' t') : Equiv W' t' W t :=
  fun n => (h n).symm
theorem equiv_trans {W W' W'' : World K L} {t t' t'' : Tree K L} (h : Equiv W t W' t')
    (h' : Equiv W' t' W'' t'') : Equiv W t W'' t'' := fun n => (h n).trans (h' n)
theorem ref_means_target {W : World K L} {k : K} {s : Tree K L} (hs : W k = some s) : Equiv W (.ref k) W s :=
  sim_ref hs

/-- the relation is not trivial: a dangling reference and a node never mean the same -/
theorem dangling_differs_from_node {W W' : World K L} {k : K} (hk : W k = none) {l : L} {cs : List (Tree K L)} :
    ¬ Equiv W (.ref k) W' (.node l cs) := fun h => sim_dangling_node hk (h 1)

/-! non-vacuity: the checker accepts the real shape of an expansion of the running example, and rejects a
wrong one -/
example : checkExp ExpandCore.Wx [] 40 ExpandCore.tx
    (.node "root" [.node "a" [.node "b" [.ref 0], .node "c" [.node "d" []]], .node "c" [.node "d" []]]) = true := by
  decide +kernel
example : checkExp ExpandCore.Wx [] 40 ExpandCore.tx
    (.node "root" [.node "a" [.node "b" [.ref 0], .node "c" [.node "WRONG" []]], .node "c" [.node "d" []]]) = false := by
  decide +kernel
example : checkWorld ExpandCore.Wx ExpandCore.Wx' 40 ExpandCore.ksx = true := by decide +kernel


/-! ### Side conditions on the shape of expander.go (regenerated facts, evaluated in `Expand/SideFacts.lean`) -/

/-- every schema keyword that can hold a sub-schema (regenerated struct table of SchemaProps) is a position
`expandSchema` / `expandItems` recurse into (regenerated from their AST), and conversely -/
theorem side_positions_complete :
    SpecModel.Expand.Side.positionsComplete SpecModel.Gen.structs SpecModel.Gen.expandPositions = true :=
  Side.positions_complete

theorem side_sections_complete : SpecModel.Expand.Side.sectionsComplete SpecModel.Gen.specSections = true :=
  Side.sections_complete

theorem side_operations_complete :
    SpecModel.Expand.Side.operationsComplete SpecModel.Gen.pathItemOperations SpecModel.Gen.pathItemOperationFields = true :=
  Side.operations_complete

end SpecModel.Props.C02
