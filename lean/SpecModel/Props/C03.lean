/-
C03 — Expansion leaves only resolvable cycle cut-points; acyclic specifications end `$ref`-free.

* about the algorithm (`Expand/Core.lean`): `remaining_on_cycle`, `acyclic_ref_free`, `acyclic_deterministic`
  (the output of an acyclic input does not depend on fuel, stack, memo: a function of the input), for every
  world and both modes;
* about every real run: `run_cuts_validated` — the compiled checker's verdict "every `$ref` left in the output
  resolves from the root location to a node on a cycle of the INPUT graph" is sound;
* how a cut is WRITTEN (`Props/C03Denorm.lean`, model of `denormalizeRef` / `rebase` tied by the `denorm`
  correspondence): `denormalize_resolves` — the relative text resolves back, from the root location, to the
  canonical target; with the proved traps where it does not (root path as string prefix: known finding).
-/
import SpecModel.Props.ExpandCore
import SpecModel.Expand.Check
import SpecModel.Expand.SideFacts
import SpecModel.Props.C03Denorm

namespace SpecModel.Props.C03
open SpecModel.Expand SpecModel.Props

variable {K L : Type} [DecidableEq K]

/-- every reference left by a successful strict expansion from the empty stack lies on a cycle of the input -/
theorem remaining_on_cycle {W : World K L} {n : Nat} {m' : List K} {t t' : Tree K L}
    (h : expand W false n [] [] t = .ok (t', m')) : ∀ k, k ∈ refsOf t' → OnCycle W k ∧ W k ≠ none :=
  ExpandCore.remaining_on_cycle h

/-- an acyclic input comes out without any reference -/
theorem acyclic_ref_free {W : World K L} {n : Nat} {m : List K} {t t' : Tree K L}
    (ha : Acyclic W t) (h : expand W false n [] [] t = .ok (t', m)) : refsOf t' = [] ∧ m = [] :=
  ExpandCore.acyclic_ref_free ha h

/-- … and that output is a function of the input alone -/
theorem acyclic_deterministic {W : World K L} {c₁ c₂ : Bool} {n₁ n₂ : Nat} {p₁ p₂ m₁ m₂ m₁' m₂' : List K}
    {t t₁ t₂ : Tree K L} (ha : Acyclic W t)
    (hm₁ : ∀ k, k ∈ m₁ → OnCycle W k) (hm₂ : ∀ k, k ∈ m₂ → OnCycle W k)
    (hp₁ : StackInv W p₁ t) (hp₂ : StackInv W p₂ t)
    (h₁ : expand W c₁ n₁ p₁ m₁ t = .ok (t₁, m₁')) (h₂ : expand W c₂ n₂ p₂ m₂ t = .ok (t₂, m₂')) : t₁ = t₂ :=
  ExpandCore.fullExpands_det ⟨n₁, (ExpandCore.acyclic_deterministic ha hm₁ hp₁ h₁).1⟩
    ⟨n₂, (ExpandCore.acyclic_deterministic ha hm₂ hp₂ h₂).1⟩

theorem run_cuts_validated [DecidableEq L] {W : World K L} {n : Nat} {t' : Tree K L}
    (h : checkCuts W n t' = true) : ∀ k, k ∈ refsOf t' → W k ≠ none ∧ OnCycle W k := checkCuts_sound h

theorem onCycle_checker_sound [DecidableEq L] {W : World K L} {n : Nat} {k : K} (h : onCycleB W n k = true) :
    OnCycle W k := onCycleB_sound h

example : onCycleB ExpandCore.Wx 10 0 = true ∧ onCycleB ExpandCore.Wx 10 2 = false := by decide +kernel
example : checkCuts ExpandCore.Wx 10 (.node "root" [.node "a" [.node "b" [.ref 0]]] : Tree Nat String) = true := by decide +kernel
example : checkCuts ExpandCore.Wx 10 (.node "root" [.ref 2] : Tree Nat String) = false := by decide +kernel


/-! ### Side conditions on the shape of expander.go (regenerated facts, evaluated in `Expand/SideFacts.lean`) -/

/-- every schema keyword that can hold a sub-schema (regenerated struct table of SchemaProps) is a position
`expandSchema` / `expandItems` recurse into (regenerated from their AST), and conversely -/
theorem side_positions_complete :
    SpecModel.Expand.Side.positionsComplete SpecModel.Gen.structs SpecModel.Gen.expandPositions = true :=
  Side.positions_complete

theorem side_sections_complete : SpecModel.Expand.Side.sectionsComplete SpecModel.Gen.specSections = true :=
  Side.sections_complete

theorem side_operations_complete :
    SpecModel.Expand.Side.operationsComplete SpecModel.Gen.pathItemOperations SpecModel.Gen.pathItemOperationFields = true :=
  Side.operations_complete

end SpecModel.Props.C03
