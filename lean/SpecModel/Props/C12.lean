/-
C12 — RFC 3986 resolution.

`normalizeURI ref base` is /repo/normalizer.go `normalizeURI` on parsed URLs (SpecModel/Url/Normalizer.lean);
`Rfc.resolve base ref` is RFC 3986 §5.2.2 written from the RFC text (SpecModel/Url/Rfc3986.lean).
The lemmas (the common stack machine of Go's `path.Clean` and RFC `remove_dot_segments`) are in
SpecModel/Url/Lemmas.lean.
-/
import SpecModel.Url.Lemmas

namespace SpecModel.Props.C12
open SpecModel.Url SpecModel.Url.Path

/-- The path of a base: absolute, and its directory part (everything up to the last `/`) is `/s1/…/sk/`
with non-empty elements `s_i` (no `//` before the last element; `.`/`..` elements are allowed). -/
def BasePathOk (b : String) : Prop := isAbs b = true ∧ Rfc.BaseOkL b.toList

/-- The path of an in-class reference, relative (`a/b`) or root-relative (`/a/b`): every element is non-empty
(no `//`, no trailing `/`, not empty, not `/` alone) and the last element is neither `.` nor `..`. -/
def RefPathOk (p : String) : Prop :=
  let r := if isAbs p then p.toList.tail else p.toList
  (∀ s ∈ splitOn r, s ≠ []) ∧ (splitOn r).getLast? ≠ some dot ∧ (splitOn r).getLast? ≠ some dotdot

instance (p : String) : Decidable (RefPathOk p) := by unfold RefPathOk; infer_instance

/-- The reference class: no scheme, no authority, no query, an in-class path. -/
structure RefClass (r : URL) : Prop where
  scheme : r.scheme = ""
  host : r.host = ""
  query : r.query = ""
  path : RefPathOk r.path

instance (r : URL) : Decidable (RefClass r) :=
  decidable_of_iff (r.scheme = "" ∧ r.host = "" ∧ r.query = "" ∧ RefPathOk r.path)
    ⟨fun ⟨h1, h2, h3, h4⟩ => ⟨h1, h2, h3, h4⟩, fun ⟨h1, h2, h3, h4⟩ => ⟨h1, h2, h3, h4⟩⟩

/-- The location of a document, as `normalizeBase` produces it. -/
structure CanonBase (b : URL) : Prop where
  scheme : b.scheme ≠ ""
  abs : isAbs b.path = true
  clean : clean b.path = b.path
  query : b.query = ""
  fragment : b.fragment = ""

/-- With these instances a test vector, hypotheses and all, is one `decide +kernel`: less than half the work of one
evaluation per clause, since the clauses evaluate the same strings. -/
instance (b : URL) : Decidable (CanonBase b) :=
  decidable_of_iff (b.scheme ≠ "" ∧ isAbs b.path = true ∧ clean b.path = b.path ∧ b.query = "" ∧ b.fragment = "")
    ⟨fun ⟨h1, h2, h3, h4, h5⟩ => ⟨h1, h2, h3, h4, h5⟩, fun ⟨h1, h2, h3, h4, h5⟩ => ⟨h1, h2, h3, h4, h5⟩⟩

/-- C12, weakest form proved: the base needs an empty query and a path whose directory part has no empty
element; nothing is assumed about its scheme, host, fragment, nor about `.`/`..` in its path. -/
theorem normalizeURI_rfc_weak {base r : URL} (hq : base.query = "") (hb : BasePathOk base.path) (hr : RefClass r) :
    normalizeURI r base = Rfc.resolve base r := by
  obtain ⟨rs, rh, rp, rq, rf⟩ := r
  obtain ⟨hs, hh, hrq, hp⟩ := hr
  simp only at hs hh hrq hp
  subst hs hh hrq
  have hrel : Rfc.RelOkL (if isAbs rp then rp.toList.tail else rp.toList) := hp
  rw [normalizeURI_relative]
  unfold Rfc.resolve
  simp only [ne_eq, not_true_eq_false, if_false]
  by_cases ha : isAbs rp = true
  · -- root-relative reference
    obtain ⟨t, ht⟩ := (isAbsL_iff _).mp ha
    rw [if_pos ha, ht] at hrel
    have hpath : cleanPath rp = Rfc.removeDotSegments rp := by
      rw [cleanPath_of_ne_dot (ne_dot_of_isAbs (by rwa [isAbs_clean]))]
      apply String.ext
      rw [toList_clean, Rfc.removeDotSegments, String.toList_ofList, ht]
      exact Rfc.go_rfc_path_abs hrel
    rw [if_neg (ne_empty_of_isAbs ha), if_pos ((head?_eq_slash_iff _).mpr ha), if_pos ha, hpath, hq]
  · -- relative reference
    rw [if_neg ha] at hrel
    have hne : rp ≠ "" := by
      rintro rfl
      exact hrel.1 [] (by decide) rfl
    have hcp : cleanPath rp = clean rp :=
      cleanPath_of_ne_dot (mt (clean_eq_dot_iff rp).mp (Rfc.cleanL_ne_dot_of_relOk hrel))
    have hpath : join (dir base.path) (clean rp) = Rfc.removeDotSegments (Rfc.merge base rp) := by
      apply String.ext
      simp only [toList_join, toList_dir, toList_clean, Rfc.removeDotSegments, Rfc.merge, String.toList_ofList]
      exact Rfc.go_rfc_path_rel hb.2 hrel _
    rw [if_neg hne, if_neg (mt (head?_eq_slash_iff _).mp ha), if_neg ha, hcp, if_pos (clean_ne_empty rp), hpath, hq]

/-- the weak form covers a base that is not cleaned and carries a fragment -/
example : (⟨"file", "", "/r/./s/../root.json", "", "frag"⟩ : URL).query = "" ∧ BasePathOk "/r/./s/../root.json" ∧
    RefClass ⟨"", "", "x/../other.json", "", "/definitions/a"⟩ :=
  ⟨rfl, ⟨by decide +kernel, [['r'], ['.'], ['s'], ['.', '.']], by decide +kernel, by unfold Rfc.SegsOk; decide +kernel⟩,
    by decide +kernel⟩

/-- C12: for a canonical document location and an in-class reference, Go's `normalizeURI` and RFC 3986
§5.2.2 agree. -/
theorem normalizeURI_rfc_full {base r : URL} (hb : CanonBase base) (hr : RefClass r) :
    normalizeURI r base = Rfc.resolve base r :=
  normalizeURI_rfc_weak hb.query ⟨hb.abs, Rfc.baseOkL_of_clean hb.abs ((clean_eq_iff _ _).mp hb.clean)⟩ hr

example : CanonBase ⟨"https", "h.com", "/root.json", "", ""⟩ ∧ RefClass ⟨"", "", "../../up.json", "", "f"⟩ ∧
    normalizeURI ⟨"", "", "../../up.json", "", "f"⟩ ⟨"https", "h.com", "/root.json", "", ""⟩ = ⟨"https", "h.com", "/up.json", "", "f"⟩ := by
  decide +kernel

/-- As the property states it: on everything but the fragment … -/
theorem normalizeURI_rfc {base r : URL} (hb : CanonBase base) (hr : RefClass r) :
    { normalizeURI r base with fragment := "" } = { Rfc.resolve base r with fragment := "" } := by
  rw [normalizeURI_rfc_full hb hr]

example : CanonBase ⟨"file", "", "/r/s/root.json", "", ""⟩ ∧ RefClass ⟨"", "", "../x/./other.json", "", "/definitions/a"⟩ ∧
    normalizeURI ⟨"", "", "../x/./other.json", "", "/definitions/a"⟩ ⟨"file", "", "/r/s/root.json", "", ""⟩
      = ⟨"file", "", "/r/x/other.json", "", "/definitions/a"⟩ := by
  decide +kernel

/-- … and on the fragment. -/
theorem normalizeURI_rfc_fragment {base r : URL} (hb : CanonBase base) (hr : RefClass r) :
    (normalizeURI r base).fragment = (Rfc.resolve base r).fragment := by
  rw [normalizeURI_rfc_full hb hr]

example : CanonBase ⟨"http", "h.com", "/r/root.json", "", ""⟩ ∧ RefClass ⟨"", "", "/a/../b.json", "", ""⟩ := by
  decide +kernel

/-- A reference that is already absolute — a scheme other than `file` with a host that stays non-empty
after normalisation, or the `file` scheme with an absolute path — is returned as it is, apart from the
cleaning of its path (its query and fragment are kept, the base is ignored). -/
theorem absolute_unchanged (r base : URL)
    (h : (r.scheme ≠ "" ∧ lower r.scheme ≠ "file" ∧ (normalizeURL r).host ≠ "") ∨
         (lower r.scheme = "file" ∧ isAbs r.path = true)) :
    normalizeURI r base = { r with path := cleanPath r.path } := by
  unfold normalizeURI
  have hc : (Ref.new { r with path := cleanPath r.path }).isCanonical = true := by
    rcases h with ⟨h1, h2, h3⟩ | ⟨h1, h2⟩
    · have h1' : lower r.scheme ≠ "" := fun e => h1 ((lower_eq_empty_iff _).mp e)
      have h3' : String.ofList (removePortL (lower r.scheme) (lowerL r.host.toList)) ≠ "" := h3
      simp [Ref.new, Ref.classify, normalizeURL, Ref.isCanonical, h1', h2, h3']
    · simp [Ref.new, Ref.classify, normalizeURL, Ref.isCanonical, h1, isAbs_collapse, isAbs_cleanPath, h2]
  simp only [hc, if_true]

example : normalizeURI ⟨"HTTP", "H.com", "/a/./b/../c.json", "q=1", "/x"⟩ ⟨"file", "", "/r/root.json", "", ""⟩
    = ⟨"HTTP", "H.com", "/a/c.json", "q=1", "/x"⟩ := by decide +kernel

example : (⟨"HTTP", "H.com", "/a", "", ""⟩ : URL).scheme ≠ "" ∧ lower "HTTP" ≠ "file" ∧
    (normalizeURL ⟨"HTTP", "H.com", "/a", "", ""⟩).host ≠ "" := by
  decide +kernel

example : lower "File" = "file" ∧ isAbs "/a/../b.json" = true ∧
    normalizeURI ⟨"File", "", "/a/../b.json", "", "/x"⟩ ⟨"http", "h.com", "/r/root.json", "", ""⟩ = ⟨"File", "", "/b.json", "", "/x"⟩ := by
  decide +kernel

/-- A fragment-only reference (no scheme, no host, empty path) resolves to the base with that fragment. -/
theorem fragment_only_is_base (r base : URL) (hs : r.scheme = "") (hh : r.host = "") (hp : r.path = "") :
    normalizeURI r base = { base with fragment := r.fragment } := by
  obtain ⟨rs, rh, rp, rq, rf⟩ := r
  simp only at hs hh hp
  subst hs hh hp
  rw [normalizeURI_relative]
  simp [cleanPath_empty, isAbs_empty]

example : normalizeURI ⟨"", "", "", "", "/definitions/x"⟩ ⟨"http", "h.com", "/r/root.json", "", ""⟩
    = ⟨"http", "h.com", "/r/root.json", "", "/definitions/x"⟩ := by decide +kernel

end SpecModel.Props.C12
