/-
Abstract core of C04 / C03 / C08 / C02 (and, by instantiation, C10): properties of the reference-expansion
algorithm `SpecModel.Expand.expand` (model: `SpecModel/Expand/Core.lean`) against the specification-side
definitions of `SpecModel/Expand/Sem.lean` (reference graph, cycles, meaning), which do not mention the
algorithm. Helper lemmas: `SpecModel/Expand/Lemmas.lean`, `SpecModel/Expand/Meaning.lean`.

The theorems are followed by `example`s on the concrete world `Wx` below (a 2-cycle `0 ⇄ 1`, an acyclic
part `2 → 3`, a dangling key `9` referenced from `4`), showing that their hypotheses are satisfiable.
-/
import SpecModel.Expand.Meaning

namespace SpecModel.Props.ExpandCore
open SpecModel.Expand

variable {K L : Type} [DecidableEq K]

/-! ### The running example -/

/-- `0 ↦ a[ref 1, ref 2]`, `1 ↦ b[ref 0]` (a 2-cycle), `2 ↦ c[ref 3]`, `3 ↦ d[]` (acyclic),
`4 ↦ e[ref 9, ref 3]` with `9` unresolvable. -/
def Wx : World Nat String
  | 0 => some (.node "a" [.ref 1, .ref 2])
  | 1 => some (.node "b" [.ref 0])
  | 2 => some (.node "c" [.ref 3])
  | 3 => some (.node "d" [])
  | 4 => some (.node "e" [.ref 9, .ref 3])
  | _ => none

def ksx : List Nat := [0, 1, 2, 3, 4]

/-- a document that uses the cycle and the acyclic part -/
def tx : Tree Nat String := .node "root" [.ref 0, .ref 2]
/-- a document over the acyclic part only -/
def tAcyc : Tree Nat String := .node "root" [.ref 2, .ref 3]
/-- a document with an unresolvable reference below a resolvable one -/
def tBad : Tree Nat String := .node "root" [.ref 2, .ref 4]

theorem finiteWorld_Wx : FiniteWorld Wx ksx := by
  intro k h
  unfold Wx at h
  split at h
  iterate 5 decide      -- one goal per key of `Wx`
  exact absurd rfl h

theorem edge_Wx_0_1 : Edge Wx 0 1 := ⟨_, rfl, by simp⟩
theorem edge_Wx_1_0 : Edge Wx 1 0 := ⟨_, rfl, by simp⟩
theorem onCycle_Wx_0 : OnCycle Wx 0 := ⟨1, edge_Wx_0_1, .single edge_Wx_1_0⟩
theorem onCycle_Wx_1 : OnCycle Wx 1 := ⟨0, edge_Wx_1_0, .single edge_Wx_0_1⟩

theorem acyclic_tAcyc : Acyclic Wx tAcyc := by
  apply acyclic_of_rank (fun k => k = 2 ∨ k = 3) (fun k => 5 - k)
  · intro k hk; simp [tAcyc] at hk; exact hk
  · rintro k k' (rfl | rfl) ⟨t, ht, hk'⟩ <;> simp [Wx] at ht <;> subst ht <;>
      simp at hk'
    subst hk'; simp

/-! The runs of the running example that the `example`s below rest on, each evaluated once. -/

theorem run_tx : expand Wx false 40 [] [] tx =
    .ok (.node "root" [.node "a" [.node "b" [.ref 0], .node "c" [.node "d" []]], .node "c" [.node "d" []]], [0]) := rfl

theorem run_tx_memo : expand Wx false 40 [] [1] tx =
    .ok (.node "root" [.node "a" [.ref 1, .node "c" [.node "d" []]], .node "c" [.node "d" []]], [1]) := rfl

theorem run_tAcyc :
    expand Wx false 9 [] [] tAcyc = .ok (.node "root" [.node "c" [.node "d" []], .node "d" []], []) := rfl

theorem run_tBad : expand Wx false 40 [] [] tBad = .err 9 := rfl

theorem run_tBad_continue : expand Wx true 40 [] [] tBad =
    .ok (.node "root" [.node "c" [.node "d" []], .node "e" [.ref 9, .node "d" []]], []) := rfl

/-- the targets of `0` (from inside the cycle) and of `2`, expanded: the trees of `Wx'` below -/
theorem run_key0 : expand Wx false 40 [0] [] (.node "a" [.ref 1, .ref 2]) =
    .ok (.node "a" [.node "b" [.ref 0], .node "c" [.node "d" []]], [0]) := rfl

theorem run_key2 : expand Wx false 40 [] [] (.node "c" [.ref 3]) = .ok (.node "c" [.node "d" []], []) := rfl

/-! ## 1. Termination (C04) -/

/-- The explicit fuel bound: the size of the start tree plus, for every key of the world, the size of the
largest tree of the world. (The variant of the proof is lexicographic: number of keys not yet on the
stack, then tree size; `unfollowed`, `terminates`.) -/
def fuelBound (W : World K L) (ks : List K) (t : Tree K L) : Nat := size t + ks.length * maxSize W ks

/-- **C04.** In a finite world, `expand` never runs out of fuel at `fuelBound` (nor above), for every start
tree, stack, memo and both modes. -/
theorem expand_terminates {W : World K L} {ks : List K} (hW : FiniteWorld W ks) (c : Bool)
    (p m : List K) (t : Tree K L) {n : Nat} (hn : fuelBound W ks t ≤ n) :
    expand W c n p m t ≠ .outOfFuel := by
  apply terminates hW c n
  have h1 := unfollowed_le ks p
  have h2 : unfollowed ks p * maxSize W ks ≤ ks.length * maxSize W ks := Nat.mul_le_mul_right _ h1
  simp only [fuelBound] at hn
  omega

example : expand Wx false (fuelBound Wx ksx tx) [] [] tx ≠ .outOfFuel :=
  expand_terminates finiteWorld_Wx false [] [] tx (Nat.le_refl _)
example : fuelBound Wx ksx tx = 36 := by decide
example : expand Wx false 40 [] [] tx =
    .ok (.node "root" [.node "a" [.node "b" [.ref 0], .node "c" [.node "d" []]], .node "c" [.node "d" []]], [0]) := run_tx

/-- **fuel_mono.** A result other than `outOfFuel` is not changed by more fuel. -/
theorem fuel_mono {W : World K L} {c : Bool} {n : Nat} {p m : List K} {t : Tree K L}
    {r : Res K (Tree K L × List K)} (h : expand W c n p m t = r) (hr : r ≠ .outOfFuel) (d : Nat) :
    expand W c (n + d) p m t = r :=
  h ▸ (fuel_mono_both W c d n).1 p m t (h ▸ hr)

theorem fuel_mono_list {W : World K L} {c : Bool} {n : Nat} {p m : List K} {cs : List (Tree K L)}
    {r : Res K (List (Tree K L) × List K)} (h : expandList W c n p m cs = r) (hr : r ≠ .outOfFuel) (d : Nat) :
    expandList W c (n + d) p m cs = r :=
  h ▸ (fuel_mono_both W c d n).2 p m cs (h ▸ hr)

example : expand Wx false (20 + 100) [] [] tx =
    .ok (.node "root" [.node "a" [.node "b" [.ref 0], .node "c" [.node "d" []]], .node "c" [.node "d" []]], [0]) :=
  fuel_mono (n := 20) (r := .ok (_, [0])) rfl (by simp) 100

/-- Termination and fuel monotonicity together: in a finite world the result is one and the same proper
outcome for every fuel `≥ fuelBound`. -/
theorem expand_total {W : World K L} {ks : List K} (hW : FiniteWorld W ks) (c : Bool)
    (p m : List K) (t : Tree K L) :
    ∃ r, r ≠ .outOfFuel ∧ ∀ n, fuelBound W ks t ≤ n → expand W c n p m t = r := by
  refine ⟨expand W c (fuelBound W ks t) p m t, expand_terminates hW c p m t (Nat.le_refl _), fun n hn => ?_⟩
  obtain ⟨d, rfl⟩ := Nat.exists_eq_add_of_le hn
  exact fuel_mono rfl (expand_terminates hW c p m t (Nat.le_refl _)) d

example : ∃ r, r ≠ .outOfFuel ∧ ∀ n, 36 ≤ n → expand Wx true n [] [] tx = r :=
  expand_total finiteWorld_Wx true [] [] tx

/-- **Recursion depth.** `stackDepth` follows the control flow of `expand` and returns the largest
`parents.length` over all (transitively) recursive calls. It never exceeds the initial length plus the
number of keys of the world: a key on the stack is never followed again. -/
theorem stack_depth_le {W : World K L} {ks : List K} (hW : FiniteWorld W ks) (c : Bool) (n : Nat)
    (p m : List K) (t : Tree K L) : stackDepth W c n p m t ≤ ks.length + p.length := by
  have := (stackDepth_both hW c).1 n p m t
  have := unfollowed_le ks p
  omega

example : stackDepth Wx false 40 [] [] tx ≤ ksx.length + 0 := stack_depth_le finiteWorld_Wx false 40 [] [] tx
example : stackDepth Wx false 40 [] [] tx = 3 := by decide +kernel

/-! ## 2. Memo and cut points (C03) -/

omit [DecidableEq K] in
/-- the invariant of the stack holds initially (`stackInv_nil`) and whenever the stack is a genuine one: a
chain of keys each reaching the next by at least one edge, the last one reaching every reference of the tree
at hand. -/
theorem stackInv_of_genuine {W : World K L} {p : List K} {t : Tree K L} (h : GenuineStack W p t) :
    StackInv W p t :=
  match p, h with
  | [], _ => stackInv_nil W t
  | [a], h => fun _ hq => List.mem_singleton.1 hq ▸ h.2 a rfl
  | _ :: b :: rest, h => fun q hq k hk =>
    -- along the chain every entry reaches the next, and the last one reaches the references of `t`
    have ih := stackInv_of_genuine (p := b :: rest) ⟨h.1.2, fun q hl => h.2 q (List.getLast?_cons_cons.trans hl)⟩
    match List.mem_cons.1 hq with
    | .inl e => e ▸ h.1.1.trans (ih b List.mem_cons_self k hk)
    | .inr hq => ih q hq k hk

example : GenuineStack Wx [0, 1] (.node "b" [.ref 0]) := by
  refine ⟨⟨.of_edge edge_Wx_0_1, trivial⟩, ?_⟩
  intro q hq k hk
  simp at hq; subst hq
  simp at hk; subst hk
  exact .of_edge edge_Wx_1_0

example : (∀ k, k ∈ [1] → OnCycle Wx k) ∧ StackInv Wx [] tx ∧
    expand Wx false 40 [] [1] tx =
      .ok (.node "root" [.node "a" [.ref 1, .node "c" [.node "d" []]], .node "c" [.node "d" []]], [1]) :=
  ⟨by intro k hk; simp at hk; subst hk; exact onCycle_Wx_1, stackInv_nil _ _, run_tx_memo⟩

/-- In strict mode, from the empty stack and memo: every remaining reference is a resolvable cut point of
a cycle. -/
theorem remaining_on_cycle {W : World K L} {n : Nat} {m' : List K} {t t' : Tree K L}
    (h : expand W false n [] [] t = .ok (t', m')) :
    ∀ k, k ∈ refsOf t' → OnCycle W k ∧ W k ≠ none := by
  intro k hk
  rcases (kept_on_cycle_run W _ _ _ _ _ _ _ h (stackInv_nil W t) (by simp)).2 k hk with hc | hc
  · exact ⟨hc, hc.resolvable⟩
  · simp at hc

example : ∃ t' m', expand Wx false 40 [] [] tx = .ok (t', m') ∧ refsOf t' = [0] := ⟨_, _, run_tx, rfl⟩

theorem memo_grows {W : World K L} {c : Bool} {n : Nat} {p m m' : List K} {t t' : Tree K L}
    (h : expand W c n p m t = .ok (t', m')) : ∀ k, k ∈ m → k ∈ m' :=
  (ok_run W c n p m t t' m' h).2.1

example : ∃ t' m', expand Wx false 40 [] [1] tx = .ok (t', m') ∧ ∀ k, k ∈ [1] → k ∈ m' :=
  ⟨_, _, run_tx_memo, memo_grows run_tx_memo⟩

/-- Whatever enters the memo or stays in the output is reachable from the input: what stays is a reference of
a partial expansion (`Exp.refs_reach`), and what enters the memo stays. -/
theorem kept_reachable {W : World K L} {c : Bool} {n : Nat} {p m m' : List K} {t t' : Tree K L}
    (h : expand W c n p m t = .ok (t', m')) :
    (∀ k, k ∈ m' → k ∈ m ∨ ReachFrom W t k) ∧ (∀ k, k ∈ refsOf t' → ReachFrom W t k) :=
  have ⟨he, _, hnew⟩ := ok_run W c n p m t t' m' h
  ⟨fun k hk => (hnew k hk).imp id (he.refs_reach k), he.refs_reach⟩

example : ∀ k, k ∈ [0] → k ∈ ([] : List Nat) ∨ ReachFrom Wx tx k :=
  (kept_reachable run_tx).1

/-- **acyclic_ref_free.** On an acyclic input a successful strict expansion from the empty stack and memo
leaves no reference and memoises nothing. -/
theorem acyclic_ref_free {W : World K L} {n : Nat} {m : List K} {t t' : Tree K L}
    (ha : Acyclic W t) (h : expand W false n [] [] t = .ok (t', m)) : refsOf t' = [] ∧ m = [] := by
  refine ⟨List.eq_nil_iff_forall_not_mem.2 fun k hk => ?_,
    (acyclic_run W false n [] [] t t' m h (stackInv_nil W t) (by simp) ha).1⟩
  exact ha k ((kept_reachable h).2 k hk) (remaining_on_cycle h k hk).1

example : Acyclic Wx tAcyc ∧
    expand Wx false 9 [] [] tAcyc = .ok (.node "root" [.node "c" [.node "d" []], .node "d" []], []) :=
  ⟨acyclic_tAcyc, run_tAcyc⟩

/-- **acyclic_deterministic.** On an acyclic input the output tree is the plain, memo-free substitution
`fullExpand` (at the same fuel), and the memo is returned unchanged — in both modes, for every stack
satisfying the invariant and every memo of keys on cycles. -/
theorem acyclic_deterministic {W : World K L} {c : Bool} {n : Nat} {p m m' : List K} {t t' : Tree K L}
    (ha : Acyclic W t) (hm : ∀ k, k ∈ m → OnCycle W k) (hp : StackInv W p t)
    (h : expand W c n p m t = .ok (t', m')) : fullExpand W n t = some t' ∧ m' = m :=
  (acyclic_run W c n p m t t' m' h hp hm ha).symm

example : fullExpand Wx 9 tAcyc = some (.node "root" [.node "c" [.node "d" []], .node "d" []]) :=
  (acyclic_deterministic acyclic_tAcyc (by simp) (stackInv_nil _ _) run_tAcyc).1

/-! Hence on an acyclic input the output depends neither on the memo, nor on the stack, nor on the fuel, nor on the
mode (`C03.acyclic_deterministic`): -/
example : (∀ k, k ∈ [0, 1] → OnCycle Wx k) ∧ ∃ t₁ m₁ t₂ m₂, expand Wx false 40 [] [0, 1] tAcyc = .ok (t₁, m₁) ∧
    expand Wx true 20 [] [] tAcyc = .ok (t₂, m₂) ∧ t₁ = t₂ := by
  refine ⟨?_, _, _, _, _, rfl, rfl, rfl⟩
  intro k hk; simp at hk
  rcases hk with rfl | rfl
  · exact onCycle_Wx_0
  · exact onCycle_Wx_1

omit [DecidableEq K] in
/-- … nor on the order in which siblings are processed: the reference expander is a function of the tree
alone (`fullExpands_det`) and treats the children of a node independently of one another. -/
theorem fullExpands_node {W : World K L} {l : L} {cs : List (Tree K L)} {t' : Tree K L} :
    FullExpands W (.node l cs) t' ↔ ∃ cs', t' = .node l cs' ∧ All2 (FullExpands W) cs cs' := by
  constructor
  · rintro ⟨n, h⟩
    cases n with
    | zero => simp [fullExpand] at h
    | succ n =>
      rw [fullExpand_node] at h
      obtain ⟨cs', hl, rfl⟩ := Option.map_eq_some_iff.1 h
      exact ⟨cs', rfl, fullExpandList_all2 hl⟩
  · rintro ⟨cs', rfl, h⟩
    obtain ⟨n, hn⟩ := all2_fullExpandList h
    exact ⟨n + 1, by rw [fullExpand_node, hn]; rfl⟩

omit [DecidableEq K] in
theorem fullExpands_ref {W : World K L} {k : K} {s t' : Tree K L} (hs : W k = some s) :
    FullExpands W (.ref k) t' ↔ FullExpands W s t' := by
  constructor
  · rintro ⟨n, h⟩
    cases n with
    | zero => simp [fullExpand] at h
    | succ n => simp only [fullExpand, hs] at h; exact ⟨n, h⟩
  · rintro ⟨n, h⟩; exact ⟨n + 1, by simp only [fullExpand, hs]; exact h⟩

omit [DecidableEq K] in
theorem fullExpands_det {W : World K L} {t a b : Tree K L} (ha : FullExpands W t a) (hb : FullExpands W t b) :
    a = b := by
  obtain ⟨n1, h1⟩ := ha
  obtain ⟨n2, h2⟩ := hb
  have e1 := fullExpand_mono (Nat.le_max_left n1 n2) h1
  have e2 := fullExpand_mono (Nat.le_max_right n1 n2) h2
  rw [e1] at e2; exact Option.some.inj e2

example : FullExpands Wx tAcyc (.node "root" [.node "c" [.node "d" []], .node "d" []]) := ⟨9, rfl⟩

/-! ## 3. Errors (C08) -/

/-- **strict_err_sound.** A reported error names a key that is unresolvable and reachable from the input:
no spurious error. (Any stack, any memo.) -/
theorem strict_err_sound {W : World K L} {n : Nat} {p m : List K} {t : Tree K L} {k : K}
    (h : expand W false n p m t = .err k) : W k = none ∧ ReachFrom W t k :=
  (err_sound W false n p m t k h).2

example : expand Wx false 40 [] [] tBad = .err 9 := run_tBad
example : Wx 9 = none ∧ ReachFrom Wx tBad 9 := strict_err_sound run_tBad

theorem continue_never_errs {W : World K L} {n : Nat} {p m : List K} {t : Tree K L} {k : K} :
    expand W true n p m t ≠ .err k := by
  intro h
  have := (err_sound W true n p m t k h).1
  simp at this

example : expand Wx true 40 [] [] tBad =
    .ok (.node "root" [.node "c" [.node "d" []], .node "e" [.ref 9, .node "d" []]], []) := run_tBad_continue

/-- The visited-set invariant behind the next two theorems, at the root: there is a set `V` of followed
keys, all resolvable, closed under edges up to unresolvable keys that sit verbatim in the output, and
containing (up to the same) the references of the input. -/
theorem visited_root {W : World K L} {c : Bool} {n : Nat} {m' : List K} {t t' : Tree K L}
    (h : expand W c n [] [] t = .ok (t', m')) :
    ∀ k, ReachFrom W t k → W k ≠ none ∨ (W k = none ∧ k ∈ refsOf t') := by
  obtain ⟨V, hV, hrefs, hmemo, _⟩ := visit_run W c n [] [] t t' m' h
  rintro k ⟨k0, hk0, r⟩
  rcases visited_reach hV (fun k hk => by simpa using hmemo k hk) (hrefs k0 hk0) r with hv | hv
  · exact .inl (hV k hv).1
  · exact .inr hv

example : ∀ k, ReachFrom Wx tBad k → Wx k ≠ none ∨ (Wx k = none ∧ k ∈ [9]) :=
  visited_root run_tBad_continue

/-- **strict_ok_complete.** If a strict expansion from the empty stack and memo succeeds, every key
reachable from the input is resolvable: nothing unresolvable was silently skipped, memoised keys
included. -/
theorem strict_ok_complete {W : World K L} {n : Nat} {t : Tree K L} {r : Tree K L × List K}
    (h : expand W false n [] [] t = .ok r) : ∀ k, ReachFrom W t k → W k ≠ none := by
  obtain ⟨t', m'⟩ := r
  intro k hk
  rcases visited_root h k hk with hv | hv
  · exact hv
  · exact (remaining_on_cycle h k hv.2).2

example : ∀ k, ReachFrom Wx tx k → Wx k ≠ none :=
  strict_ok_complete run_tx

/-- **continue_verbatim.** In continue mode every unresolvable key reachable from the input stays in the
output as a verbatim `ref k`. (From the empty stack and memo. `Exp`/`expand_exp` below adds that it stays
*at its position*: a kept leaf is never rewritten.) -/
theorem continue_verbatim {W : World K L} {n : Nat} {m' : List K} {t t' : Tree K L} {k : K}
    (h : expand W true n [] [] t = .ok (t', m')) (hr : ReachFrom W t k) (hk : W k = none) :
    k ∈ refsOf t' := by
  rcases visited_root h k hr with hv | hv
  · exact absurd hk hv
  · exact hv.2

example : 9 ∈ refsOf (.node "root" [.node "c" [.node "d" []], .node "e" [.ref 9, .node "d" []]] : Tree Nat String) :=
  continue_verbatim run_tBad_continue (strict_err_sound run_tBad).2 rfl

/-- Conversely, in continue mode a reference left in the output is a cycle cut point or unresolvable. -/
theorem continue_remaining {W : World K L} {n : Nat} {m' : List K} {t t' : Tree K L}
    (h : expand W true n [] [] t = .ok (t', m')) : ∀ k, k ∈ refsOf t' → OnCycle W k ∨ W k = none := by
  intro k hk
  exact ((kept_on_cycle_run W _ _ _ _ _ _ _ h (stackInv_nil W t) (by simp)).2 k hk).imp id (·.2)

example : ∀ k, k ∈ [0] → OnCycle Wx k ∨ Wx k = none :=
  continue_remaining (rfl : expand Wx true 40 [] [] tx = .ok (_, [0]))

/-- Both directions together, in a finite world: a strict expansion fails iff some reachable key is
unresolvable. -/
theorem strict_error_iff {W : World K L} {ks : List K} (hW : FiniteWorld W ks) (t : Tree K L) {n : Nat}
    (hn : fuelBound W ks t ≤ n) :
    (∃ k, expand W false n [] [] t = .err k) ↔ ∃ k, ReachFrom W t k ∧ W k = none := by
  constructor
  · rintro ⟨k, h⟩; exact ⟨k, (strict_err_sound h).2, (strict_err_sound h).1⟩
  · rintro ⟨k, hr, hk⟩
    cases h : expand W false n [] [] t with
    | ok r => exact absurd hk (strict_ok_complete h k hr)
    | err k' => exact ⟨k', rfl⟩
    | outOfFuel => exact absurd h (expand_terminates hW false [] [] t hn)

example : (∃ k, expand Wx false 40 [] [] tBad = .err k) ↔ ∃ k, ReachFrom Wx tBad k ∧ Wx k = none :=
  strict_error_iff finiteWorld_Wx tBad (by decide : fuelBound Wx ksx tBad ≤ 40)

/-- In a finite world a continue-mode expansion succeeds. -/
theorem continue_ok {W : World K L} {ks : List K} (hW : FiniteWorld W ks) (p m : List K) (t : Tree K L)
    {n : Nat} (hn : fuelBound W ks t ≤ n) : ∃ r, expand W true n p m t = .ok r := by
  cases h : expand W true n p m t with
  | ok r => exact ⟨r, rfl⟩
  | err k => exact absurd h continue_never_errs
  | outOfFuel => exact absurd h (expand_terminates hW true p m t hn)

example : ∃ r, expand Wx true 40 [] [] tBad = .ok r := continue_ok finiteWorld_Wx [] [] tBad (by decide : fuelBound Wx ksx tBad ≤ 40)

/-! ## 4. Meaning preservation (C02)

`Equiv W t W' t'` (`Sem.lean`): `t` read in `W` and `t'` read in `W'` denote the same possibly infinite
fully dereferenced tree. It is an equivalence and a resolvable reference denotes what its target denotes, depth by
depth (`Sim.refl`, `Sim.symm`, `Sim.trans`, `sim_ref`; for `Equiv` in `Props/C02`). -/

example : Equiv Wx (.ref 0) Wx (.node "a" [.ref 1, .ref 2]) := sim_ref rfl

omit [DecidableEq K] in
/-- `Equiv` is structural on nodes: same label, children pairwise equivalent (so it is a congruence, and
it distinguishes trees that differ anywhere at finite depth) -/
theorem equiv_node_iff {W W' : World K L} {l l' : L} {cs cs' : List (Tree K L)} :
    Equiv W (.node l cs) W' (.node l' cs') ↔ l = l' ∧ All2 (fun c c' => Equiv W c W' c') cs cs' := by
  rw [equiv_iff_succ]
  simp only [sim_node_succ, forall_and, forall_const, all2_forall]
  exact Iff.rfl

omit [DecidableEq K] in
/-- unresolvable references are atoms: equivalent only to themselves (and never to a node, `sim_dangling_node`) -/
theorem equiv_dangling_iff {W W' : World K L} {k k' : K} (hk : W k = none) (hk' : W' k' = none) :
    Equiv W (.ref k : Tree K L) W' (.ref k') ↔ k = k' := by
  simp only [equiv_iff_succ, sim_dangling_succ hk hk', forall_const]

/-- The relation is not trivial: different labels, or a dangling reference against a node, are told
apart at depth 1. -/
example : ¬ Equiv Wx (.ref 2) Wx (.ref 3) := by
  intro h
  obtain ⟨u', hu', hm⟩ := (h 1).1 _ (head?_sound (n := 1) (W := Wx) (t := .ref 2) rfl)
  have := hu'.det (head?_sound (n := 1) (W := Wx) (t := .ref 3) rfl)
  subst this
  simp [HeadMatch] at hm

/-- **(a) expand_exp.** The output of a successful expansion is a partial expansion of its input. -/
theorem expand_exp {W : World K L} {c : Bool} {n : Nat} {p m m' : List K} {t t' : Tree K L}
    (h : expand W c n p m t = .ok (t', m')) : Exp W t t' :=
  (ok_run W c n p m t t' m' h).1

example : Exp Wx tx
    (.node "root" [.node "a" [.node "b" [.ref 0], .node "c" [.node "d" []]], .node "c" [.node "d" []]]) :=
  expand_exp run_tx

/-! **(b)** is `exp_equiv` (`Expand/Meaning.lean`): a partial expansion read in a world of partial expansions
denotes what its source denoted. -/

/-- the world in which `0` and `2` have been replaced by their own expansions -/
def Wx' : World Nat String
  | 0 => some (.node "a" [.node "b" [.ref 0], .node "c" [.node "d" []]])
  | 2 => some (.node "c" [.node "d" []])
  | k => Wx k

theorem worldExp_Wx : WorldExp Wx Wx'
  | 0 => .inr ⟨_, _, rfl, rfl, expand_exp run_key0⟩
  | 2 => .inr ⟨_, _, rfl, rfl, expand_exp run_key2⟩
  | 1 | _ + 3 => WorldExp.refl Wx _

example : Equiv Wx tx Wx'
    (.node "root" [.node "a" [.node "b" [.ref 0], .node "c" [.node "d" []]], .node "c" [.node "d" []]]) :=
  exp_equiv worldExp_Wx (expand_exp run_tx)

/-- **(c) expand_preserves_meaning.** Let `W'` be `W` in which the keys of `rs` have been replaced by
(successful) expansions of their own targets — any mode, fuel, stack and memo, possibly different for each
key — and all other keys are unchanged. Then the output of a successful expansion of `t`, read in `W'`,
denotes what `t` denoted in `W`: the output document can replace the input document. -/
theorem expand_preserves_meaning {W W' : World K L} (rs : List K)
    (hrs : ∀ k, k ∈ rs → ∃ s s' c n p m m', W k = some s ∧ expand W c n p m s = .ok (s', m') ∧ W' k = some s')
    (hother : ∀ k, k ∉ rs → W' k = W k)
    {c : Bool} {n : Nat} {p m m' : List K} {t t' : Tree K L} (h : expand W c n p m t = .ok (t', m')) :
    Equiv W t W' t' := by
  apply exp_equiv _ (expand_exp h)
  intro k
  by_cases hk : k ∈ rs
  · obtain ⟨s, s', c, n, p, m, m', hs, he, hs'⟩ := hrs k hk
    exact .inr ⟨s, s', hs, hs', expand_exp he⟩
  · rw [hother k hk]; exact WorldExp.refl W k

example : Equiv Wx (.ref 0) Wx' (.ref 0) := exp_equiv worldExp_Wx (.keep 0)

example : Equiv Wx tx Wx'
    (.node "root" [.node "a" [.node "b" [.ref 0], .node "c" [.node "d" []]], .node "c" [.node "d" []]]) := by
  apply expand_preserves_meaning [0, 2] _ _ run_tx
  · intro k hk
    simp at hk
    rcases hk with rfl | rfl
    · exact ⟨_, _, false, 40, [0], [], [0], rfl, run_key0, rfl⟩
    · exact ⟨_, _, false, 40, [], [], [], rfl, run_key2, rfl⟩
  · intro k hk
    match k, hk with
    | 0, hk => simp at hk
    | 2, hk => simp at hk
    | 1, _ | _ + 3, _ => rfl

end SpecModel.Props.ExpandCore
