/-
C10 — Single-element expanders agree with whole-specification expansion and never touch the root.

The theorems of C02–C04 / C08 are stated about `expand` for ANY start tree, stack and memo, not about a whole
document: a single schema, parameter or response is a start tree, the root it is expanded against is the world
(`ExpandSchema` registers it under a pseudo location, which only changes the spelling of keys).  So:
* `entry_preserves`, `entry_remaining_on_cycle`, `entry_terminates` are instances;
* the root is untouched: the model's expander is a function of the world — it has no way of changing it; what the
  Go code could still do, mutate the caller's root through shared storage, is outside the model and is decided
  per run by comparing the JSON of the root (and the option structure) before and after every call;
* per run, the compiled checker validates each entry point's output against the unchanged world.
-/
import SpecModel.Props.ExpandCore
import SpecModel.Expand.Check

namespace SpecModel.Props.C10
open SpecModel.Expand SpecModel.Props

variable {K L : Type} [DecidableEq K]

theorem entry_preserves {W : World K L} {c : Bool} {n : Nat} {p m m' : List K} {t t' : Tree K L}
    (h : expand W c n p m t = .ok (t', m')) : Equiv W t W t' :=
  exp_equiv (WorldExp.refl W) (ExpandCore.expand_exp h)

theorem entry_remaining_on_cycle {W : World K L} {n : Nat} {m' : List K} {t t' : Tree K L}
    (h : expand W false n [] [] t = .ok (t', m')) : ∀ k, k ∈ refsOf t' → OnCycle W k ∧ W k ≠ none :=
  ExpandCore.remaining_on_cycle h

theorem entry_terminates {W : World K L} {ks : List K} (hW : FiniteWorld W ks) (c : Bool)
    (p m : List K) (t : Tree K L) {n : Nat} (hn : ExpandCore.fuelBound W ks t ≤ n) :
    expand W c n p m t ≠ .outOfFuel := ExpandCore.expand_terminates hW c p m t hn

/-- **per run**, against the unchanged world -/
theorem run_entry_validated [DecidableEq L] {W : World K L} {m : Nat} {t t' : Tree K L}
    (he : checkExp W [] m t t' = true) : Equiv W t W t' :=
  exp_equiv (WorldExp.refl W) (checkExp_sound he)

example : Equiv ExpandCore.Wx (.ref 2) ExpandCore.Wx (.node "c" [.node "d" []]) :=
  entry_preserves (rfl : expand ExpandCore.Wx false 10 [] [] (.ref 2) = .ok (_, []))

end SpecModel.Props.C10
