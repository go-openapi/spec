/-
Lemmas about the JSON-pointer model: escaping round trip, evaluation composes.
-/
import SpecModel.Pointer

namespace SpecModel.Pointer
open SpecModel

theorem replace1_cons_other {c : Char} {r : List Char} (h1 : c ≠ '~') : replace1 (c :: r) = c :: replace1 r := by
  -- the equation of the last arm of an overlapping match asks that the earlier arms do not match
  rw [replace1]
  intro _ h; exact absurd h h1

theorem replace0_cons_other {c : Char} {r : List Char} (h1 : c ≠ '~') : replace0 (c :: r) = c :: replace0 r := by
  rw [replace0]
  intro _ h; exact absurd h h1

/-- an escaped member name never contains the token separator -/
theorem escape_no_slash (s : List Char) : '/' ∉ escape s := by
  fun_induction escape s with
  | case1 r ih => simpa using ih      -- `~`
  | case2 r ih => simpa using ih      -- `/`
  | case3 c r _ h2 ih => simpa using ⟨fun h => h2 h.symm, ih⟩
  | case4 => simp

/-- **Token round trip**: whatever characters a member name contains, escaping it and reading it back through
jsonpointer's two-pass `Unescape` (all `~1`, then all `~0`) gives the name. The first pass leaves the `~0` that
`escape` wrote for a `~` alone, because what follows that `~` is `0`, not `1`. -/
theorem unescape_escape (s : List Char) : unescape (escape s) = s := by
  unfold unescape
  fun_induction escape s with
  | case1 r ih =>      -- `~`, written `~0`
    have e : replace1 ('~' :: '0' :: escape r) = '~' :: replace1 ('0' :: escape r) := by
      rw [replace1]; intro r' _ h; simp at h
    rw [e, replace1_cons_other (by decide), replace0, ih]
  | case2 r ih => rw [replace1, replace0_cons_other (by decide), ih]      -- `/`, written `~1`
  | case3 c r h1 _ ih => rw [replace1_cons_other h1, replace0_cons_other h1, ih]
  | case4 => rfl

/-- evaluation composes: walking `a ++ b` is walking `a`, then `b` from there -/
theorem eval_append (j : Json) (a b : List String) :
    eval j (a ++ b) = (eval j a).bind fun x => eval x b := by
  fun_induction eval j a with
  | case1 => rfl      -- `a` is empty
  | case2 _ _ _ _ h ih => simpa [eval, h] using ih      -- the first step of `a` finds a value
  | case3 _ _ _ h => simp [eval, h]      -- the first step of `a` finds nothing

end SpecModel.Pointer
