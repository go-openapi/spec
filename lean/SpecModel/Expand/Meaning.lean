/-
Theory of the specification side: the meaning relation (`Head`/`Sim`/`Equiv`), partial expansion (`Exp`) and
the reference expander (`fullExpand`); and `expand` against them (`ok_run`, `acyclic_run`). The statements a
reader should look at are in `SpecModel.Props.ExpandCore`.
-/
import SpecModel.Expand.Lemmas

namespace SpecModel.Expand

variable {K L : Type}

/-! ### `All2` -/

/-- `All2` as an inductive predicate: the lists are both empty, or both a `cons` with related heads -/
theorem All2.induction {α β : Type} {R : α → β → Prop} {motive : List α → List β → Prop} (nil : motive [] [])
    (cons : ∀ a b l l', R a b → All2 R l l' → motive l l' → motive (a :: l) (b :: l')) :
    ∀ {l : List α} {l' : List β}, All2 R l l' → motive l l'
  | [], [], _ => nil
  | _ :: _, _ :: _, h => cons _ _ _ _ h.1 h.2 (All2.induction nil cons h.2)
  | [], _ :: _, h => h.elim
  | _ :: _, [], h => h.elim

theorem All2.refl {α : Type} {R : α → α → Prop} (h : ∀ a, R a a) : ∀ l : List α, All2 R l l
  | [] => trivial
  | a :: l => ⟨h a, All2.refl h l⟩

theorem All2.flip {α β : Type} {R : α → β → Prop} {R' : β → α → Prop} (h : ∀ a b, R a b → R' b a)
    {l : List α} {l' : List β} (hl : All2 R l l') : All2 R' l' l :=
  hl.induction (motive := fun l l' => All2 R' l' l) trivial fun _ _ _ _ hab _ ih => ⟨h _ _ hab, ih⟩

theorem All2.mono {α β : Type} {R R' : α → β → Prop} (h : ∀ a b, R a b → R' a b)
    {l : List α} {l' : List β} (hl : All2 R l l') : All2 R' l l' :=
  hl.induction trivial fun _ _ _ _ hab _ ih => ⟨h _ _ hab, ih⟩

theorem All2.trans {α β γ : Type} {R : α → β → Prop} {R' : β → γ → Prop} {R'' : α → γ → Prop}
    (h : ∀ a b c, R a b → R' b c → R'' a c) {l : List α} {l' : List β} {l'' : List γ}
    (h1 : All2 R l l') (h2 : All2 R' l' l'') : All2 R'' l l'' :=
  h1.induction (motive := fun l l' => ∀ l'', All2 R' l' l'' → All2 R'' l l'')
    (fun l'' h2 => by cases l'' <;> exact h2)
    (fun a b _ _ hab _ ih l'' h2 => by
      cases l'' with
      | nil => exact h2.elim
      | cons c l'' => exact ⟨h a b c hab h2.1, ih l'' h2.2⟩) l'' h2

theorem all2_forall {α β : Type} {R : Nat → α → β → Prop} {l : List α} {l' : List β} :
    (∀ n, All2 (R n) l l') ↔ All2 (fun a b => ∀ n, R n a b) l l' := by
  refine ⟨fun h => ?_, fun h n => h.mono fun _ _ h => h n⟩
  exact (h 0).induction (motive := fun l l' => (∀ n, All2 (R n) l l') → All2 (fun a b => ∀ n, R n a b) l l')
    (fun _ => trivial) (fun _ _ _ _ _ _ ih h => ⟨fun n => (h n).1, ih fun n => (h n).2⟩) h

/-- the `zip` formulation used in `Exp.node` is the pointwise relation -/
theorem all2_iff_zip {α β : Type} {R : α → β → Prop} :
    ∀ {l : List α} {l' : List β}, All2 R l l' ↔ (l.length = l'.length ∧ ∀ p, p ∈ l.zip l' → R p.1 p.2)
  | [], [] => by simp [All2]
  | a :: l, b :: l' => by
      simp only [All2, all2_iff_zip (l := l) (l' := l'), List.length_cons, List.zip_cons_cons,
        List.mem_cons, forall_eq_or_imp, Nat.add_right_cancel_iff]
      exact and_left_comm
  | [], _ :: _ => by simp [All2]
  | _ :: _, [] => by simp [All2]

/-! ### `Head` -/

section head
variable {W W' W'' : World K L}

theorem Head.shape {t u : Tree K L} (h : Head W t u) : (∃ l cs, u = .node l cs) ∨ (∃ k, u = .ref k ∧ W k = none) := by
  induction h with
  | node l cs => exact .inl ⟨l, cs, rfl⟩
  | dangling hk => exact .inr ⟨_, rfl, hk⟩
  | follow _ _ ih => exact ih

theorem head_node_iff {l : L} {cs : List (Tree K L)} {u : Tree K L} :
    Head W (.node l cs) u ↔ u = .node l cs :=
  ⟨fun h => by cases h; rfl, by rintro rfl; exact .node l cs⟩

theorem head_dangling_iff {k : K} (hk : W k = none) {u : Tree K L} : Head W (.ref k) u ↔ u = .ref k := by
  constructor
  · intro h
    cases h with
    | dangling _ => rfl
    | follow hs _ => simp [hk] at hs
  · rintro rfl; exact .dangling hk

theorem head_ref_iff {k : K} {s u : Tree K L} (hs : W k = some s) : Head W (.ref k) u ↔ Head W s u := by
  constructor
  · intro h
    cases h with
    | dangling hk => simp [hk] at hs
    | follow hs' h' => rw [hs] at hs'; cases hs'; exact h'
  · exact .follow hs

/-- `Head` is a partial function -/
theorem Head.det {t u u' : Tree K L} (h : Head W t u) (h' : Head W t u') : u = u' := by
  induction h with
  | node l cs => exact (head_node_iff.1 h').symm
  | dangling hk => exact ((head_dangling_iff hk).1 h').symm
  | follow hs _ ih => exact ih ((head_ref_iff hs).1 h')

theorem head?_sound {n : Nat} {t u : Tree K L} (h : head? W n t = some u) : Head W t u := by
  fun_induction head? W n t with
  | case1 _ l cs => cases h; exact .node l cs
  | case2 => cases h
  | case3 _ _ hk => cases h; exact .dangling hk
  | case4 _ _ _ hs ih => exact .follow hs (ih h)

/-! ### `Sim` is an equivalence -/

theorem HeadMatch.refl {R : Tree K L → Tree K L → Prop} (h : ∀ t, R t t) : ∀ u, HeadMatch R u u
  | .ref _ => rfl
  | .node _ cs => .intro rfl (All2.refl h cs)

theorem HeadMatch.flip {R R' : Tree K L → Tree K L → Prop} (h : ∀ a b, R a b → R' b a) :
    ∀ {u u' : Tree K L}, HeadMatch R u u' → HeadMatch R' u' u
  | .ref _, .ref _, hm => Eq.symm hm
  | .node .., .node .., hm => .intro hm.1.symm (All2.flip h hm.2)
  | .ref _, .node .., hm => hm.elim
  | .node .., .ref _, hm => hm.elim

theorem HeadMatch.trans {R R' R'' : Tree K L → Tree K L → Prop} : ∀ {u u' u'' : Tree K L},
    HeadMatch R u u' → HeadMatch R' u' u'' → (∀ a b c, R a b → R' b c → R'' a c) → HeadMatch R'' u u''
  | .ref _, .ref _, .ref _, h1, h2, _ => Eq.trans h1 h2
  | .node .., .node .., .node .., h1, h2, h => .intro (h1.1.trans h2.1) (All2.trans h h1.2 h2.2)
  | .ref _, .node .., _, h1, _, _ => h1.elim
  | .node .., .ref _, _, h1, _, _ => h1.elim
  | .ref _, .ref _, .node .., _, h2, _ => h2.elim
  | .node .., .node .., .ref _, _, h2, _ => h2.elim

/-- `Head` being a partial function, the two simulation conditions say: a head exists on one side iff it does on
the other, and when both exist they match. -/
theorem sim_succ {n : Nat} {t t' : Tree K L} : Sim W W' (n + 1) t t' ↔
    ((∃ u, Head W t u) ↔ ∃ u', Head W' t' u') ∧
      ∀ u u', Head W t u → Head W' t' u' → HeadMatch (Sim W W' n) u u' := by
  constructor
  · rintro ⟨f, b⟩
    refine ⟨⟨fun ⟨u, hu⟩ => (f u hu).imp fun _ => And.left, fun ⟨u', hu'⟩ => (b u' hu').imp fun _ => And.left⟩,
      fun u u' hu hu' => ?_⟩
    obtain ⟨u1, hu1, hm⟩ := f u hu
    exact hu1.det hu' ▸ hm
  · rintro ⟨e, m⟩
    exact ⟨fun u hu => (e.1 ⟨u, hu⟩).imp fun u' hu' => ⟨hu', m u u' hu hu'⟩,
           fun u' hu' => (e.2 ⟨u', hu'⟩).imp fun u hu => ⟨hu, m u u' hu hu'⟩⟩

theorem Sim.refl (W : World K L) : ∀ n t, Sim W W n t t
  | 0, _ => trivial
  | n + 1, _ => sim_succ.2 ⟨.rfl, fun u _ hu hu' => hu.det hu' ▸ HeadMatch.refl (Sim.refl W n) u⟩

theorem Sim.symm : ∀ {n : Nat} {t t' : Tree K L}, Sim W W' n t t' → Sim W' W n t' t
  | 0, _, _, _ => trivial
  | _ + 1, _, _, h =>
    have ⟨e, m⟩ := sim_succ.1 h
    sim_succ.2 ⟨e.symm, fun u' u hu' hu => (m u u' hu hu').flip fun _ _ => Sim.symm⟩

theorem Sim.trans : ∀ {n : Nat} {t t' t'' : Tree K L}, Sim W W' n t t' → Sim W' W'' n t' t'' → Sim W W'' n t t''
  | 0, _, _, _, _, _ => trivial
  | _ + 1, _, _, _, h1, h2 =>
    have ⟨e1, m1⟩ := sim_succ.1 h1
    have ⟨e2, m2⟩ := sim_succ.1 h2
    sim_succ.2 ⟨e1.trans e2, fun u u'' hu hu'' =>
      have ⟨u', hu'⟩ := e1.1 ⟨u, hu⟩
      (m1 u u' hu hu').trans (m2 u' u'' hu' hu'') fun _ _ _ => Sim.trans⟩

/-- a resolvable reference means what its target means: it has the same heads -/
theorem sim_ref {k : K} {s : Tree K L} (hs : W k = some s) : ∀ n, Sim W W n (.ref k) s
  | 0 => trivial
  | n + 1 => by simpa only [Sim, head_ref_iff hs] using Sim.refl W (n + 1) s

/-- where both heads are known, agreement to depth `n + 1` is that they match -/
theorem sim_succ_of_heads {n : Nat} {t t' x x' : Tree K L} (h : ∀ u, Head W t u ↔ u = x)
    (h' : ∀ u', Head W' t' u' ↔ u' = x') : Sim W W' (n + 1) t t' ↔ HeadMatch (Sim W W' n) x x' := by
  simp only [Sim, h, h', exists_eq_left, forall_eq, and_self]

theorem sim_node_succ {l l' : L} {cs cs' : List (Tree K L)} {n : Nat} :
    Sim W W' (n + 1) (.node l cs) (.node l' cs') ↔ l = l' ∧ All2 (Sim W W' n) cs cs' :=
  sim_succ_of_heads (fun _ => head_node_iff) (fun _ => head_node_iff)

theorem sim_dangling_succ {k k' : K} (hk : W k = none) (hk' : W' k' = none) {n : Nat} :
    Sim W W' (n + 1) (.ref k : Tree K L) (.ref k') ↔ k = k' :=
  sim_succ_of_heads (fun _ => head_dangling_iff hk) (fun _ => head_dangling_iff hk')

theorem sim_dangling_node {k : K} (hk : W k = none) {l : L} {cs : List (Tree K L)} {n : Nat} :
    ¬ Sim W W' (n + 1) (.ref k) (.node l cs) :=
  (sim_succ_of_heads (fun _ => head_dangling_iff hk) (fun _ => head_node_iff)).1

/-- depth 0 says nothing -/
theorem equiv_iff_succ {t t' : Tree K L} : Equiv W t W' t' ↔ ∀ n, Sim W W' (n + 1) t t' :=
  ⟨fun h n => h (n + 1), fun h n => match n with | 0 => trivial | n + 1 => h n⟩

end head

/-! ### `Exp` -/

section exp
variable {W W' : World K L}

theorem Exp.node_iff {l : L} {cs cs' : List (Tree K L)} :
    Exp W (.node l cs) (.node l cs') ↔ All2 (Exp W) cs cs' := by
  rw [all2_iff_zip]
  constructor
  · intro h; cases h with | node _ h1 h2 => exact ⟨h1, h2⟩
  · rintro ⟨h1, h2⟩; exact .node l h1 h2

mutual
  theorem Exp.refl (W : World K L) : ∀ t : Tree K L, Exp W t t
    | .ref k => .keep k
    | .node _ cs => Exp.node_iff.2 (Exp.reflList W cs)
  theorem Exp.reflList (W : World K L) : ∀ cs : List (Tree K L), All2 (Exp W) cs cs
    | [] => trivial
    | c :: cs => ⟨Exp.refl W c, Exp.reflList W cs⟩
end

theorem Exp.cons {l : L} {c c' : Tree K L} {cs cs' : List (Tree K L)} (h : Exp W c c')
    (hs : Exp W (.node l cs) (.node l cs')) : Exp W (.node l (c :: cs)) (.node l (c' :: cs')) :=
  Exp.node_iff.2 ⟨h, Exp.node_iff.1 hs⟩

/-- an expansion that is a reference: the source leads to it by reference hops, which carry heads back -/
theorem Exp.head_of_ref {t u : Tree K L} {k : K} (h : Exp W t (.ref k)) (hu : Head W (.ref k) u) : Head W t u := by
  generalize e : Tree.ref k = t' at h
  induction h with
  | keep _ => exact e ▸ hu
  | follow hs _ ih => exact .follow hs (ih e)
  | node => cases e

/-- an expansion that is a node: the source leads by reference hops to a node of that label, expanded childwise -/
theorem Exp.head_of_node {t : Tree K L} {l : L} {cs' : List (Tree K L)} (h : Exp W t (.node l cs')) :
    ∃ cs, Head W t (.node l cs) ∧ All2 (Exp W) cs cs' := by
  generalize e : Tree.node l cs' = t' at h
  induction h with
  | keep _ => cases e
  | follow hs _ ih =>
    obtain ⟨cs, h0, ha⟩ := ih e
    exact ⟨cs, .follow hs h0, ha⟩
  | node _ h1 h2 _ => cases e; exact ⟨_, .node _ _, all2_iff_zip.2 ⟨h1, h2⟩⟩

/-- C02 core, left to right: a head of the source is matched by a head of the expansion read in `W'` -/
theorem exp_sim_fwd (hW : WorldExp W W') {R : Tree K L → Tree K L → Prop}
    (ih : ∀ t t', Exp W t t' → R t t') {t u : Tree K L} (hu : Head W t u) :
    ∀ t', Exp W t t' → ∃ u', Head W' t' u' ∧ HeadMatch R u u' := by
  induction hu with
  | node l cs =>
    intro t' he
    cases he with
    | node _ h1 h2 => exact ⟨_, .node l _, .intro rfl ((all2_iff_zip.2 ⟨h1, h2⟩).mono ih)⟩
  | @dangling k hk =>
    intro t' he
    cases he with
    | keep _ =>
      rcases hW k with ⟨_, h'⟩ | ⟨s, s', hs, _⟩
      · exact ⟨_, .dangling h', rfl⟩
      · simp [hk] at hs
    | follow hs _ => simp [hk] at hs
  | @follow k s u hs _ ihh =>
    intro t' he
    cases he with
    | keep _ =>
      rcases hW k with ⟨h, _⟩ | ⟨s0, s', hs0, hs', he'⟩
      · simp [hs] at h
      · rw [hs] at hs0; cases hs0
        obtain ⟨u', hu', hm⟩ := ihh s' he'
        exact ⟨u', .follow hs' hu', hm⟩
    | follow hs0 he' =>
      rw [hs] at hs0; cases hs0
      exact ihh t' he'

/-- C02 core, right to left -/
theorem exp_sim_bwd (hW : WorldExp W W') {R : Tree K L → Tree K L → Prop}
    (ih : ∀ t t', Exp W t t' → R t t') {t' u' : Tree K L} (hu' : Head W' t' u') :
    ∀ t, Exp W t t' → ∃ u, Head W t u ∧ HeadMatch R u u' := by
  induction hu' with
  | node l cs' =>
    intro t he
    obtain ⟨cs, h0, ha⟩ := he.head_of_node
    exact ⟨_, h0, .intro rfl (ha.mono ih)⟩
  | @dangling k hk =>
    intro t he
    rcases hW k with ⟨h, _⟩ | ⟨s, s', _, hs', _⟩
    · exact ⟨_, he.head_of_ref (.dangling h), rfl⟩
    · simp [hk] at hs'
  | @follow k s' u' hs' _ ihh =>
    intro t he
    rcases hW k with ⟨_, h⟩ | ⟨s, s0, hs, hs0, he'⟩
    · simp [hs'] at h
    · rw [hs'] at hs0; cases hs0
      obtain ⟨u, hu, hm⟩ := ihh s he'
      exact ⟨u, he.head_of_ref (.follow hs hu), hm⟩

/-- C02 core: an expansion read in an expanded world agrees with its source to every depth -/
theorem exp_sim (hW : WorldExp W W') : ∀ n t t', Exp W t t' → Sim W W' n t t'
  | 0, _, _, _ => trivial
  | n + 1, t, t', he =>
      ⟨fun _ hu => exp_sim_fwd hW (exp_sim hW n) hu t' he,
       fun _ hu' => exp_sim_bwd hW (exp_sim hW n) hu' t he⟩

/-- If `W'` is `W` with some trees replaced by partial expansions of themselves (`WorldExp`), and `t'` is a
partial expansion of `t`, then `t'` read in `W'` denotes what `t` read in `W` denotes. No well-foundedness
hypothesis is needed. -/
theorem exp_equiv (hW : WorldExp W W') {t t' : Tree K L} (h : Exp W t t') : Equiv W t W' t' :=
  fun n => exp_sim hW n t t' h

theorem WorldExp.refl (W : World K L) : WorldExp W W := fun k =>
  match W k with
  | none => .inl ⟨rfl, rfl⟩
  | some s => .inr ⟨s, s, rfl, rfl, Exp.refl W s⟩

theorem Exp.refs_reach {t t' : Tree K L} (h : Exp W t t') : ∀ k, k ∈ refsOf t' → ReachFrom W t k := by
  induction h with
  | keep k => exact fun k' hk' => ⟨k', hk', .refl k'⟩
  | follow hs _ ih => exact fun k hk => reachFrom_follow hs (ih k hk)
  | @node l cs cs' hlen _ ih =>
    have h : All2 (fun c c' => ∀ k, k ∈ refsOf c' → ReachFrom W c k) cs cs' := all2_iff_zip.2 ⟨hlen, ih⟩
    exact h.induction (motive := fun cs cs' => ∀ k, k ∈ refsOf (.node l cs') → ReachFrom W (.node l cs) k)
      forall_refsOf_leaf fun c c' cs cs' hc _ ih => forall_refsOf_cons.2
        ⟨fun k hk => reachFrom_cons.2 (.inl (hc k hk)), fun k hk => reachFrom_cons.2 (.inr (ih k hk))⟩

end exp

/-! ### The reference expander -/

section fullExpand
variable {W : World K L} {n : Nat}

theorem fullExpand_node {l : L} {cs : List (Tree K L)} :
    fullExpand W (n + 1) (.node l cs) = (fullExpandList W n cs).map (.node l) := by
  rw [fullExpand]; cases fullExpandList W n cs <;> rfl

theorem fullExpandList_cons {c : Tree K L} {cs : List (Tree K L)} :
    fullExpandList W (n + 1) (c :: cs) =
      (fullExpand W n c).bind fun c' => (fullExpandList W n cs).map (c' :: ·) := by
  rw [fullExpandList]
  cases fullExpand W n c with
  | none => rfl
  | some c' => cases fullExpandList W n cs <;> rfl

theorem fullExpand_cons {l : L} {c c' : Tree K L} {cs cs' : List (Tree K L)} (h : fullExpand W n c = some c')
    (hs : fullExpand W (n + 1) (.node l cs) = some (.node l cs')) :
    fullExpand W (n + 2) (.node l (c :: cs)) = some (.node l (c' :: cs')) := by
  rw [fullExpand_node] at hs ⊢
  obtain ⟨_, hs, e⟩ := Option.map_eq_some_iff.1 hs
  cases e
  rw [fullExpandList_cons, h, hs]; rfl

theorem fullExpand_mono_both (W : World K L) : ∀ n,
    (∀ n' t t', n ≤ n' → fullExpand W n t = some t' → fullExpand W n' t = some t') ∧
    (∀ n' cs cs', n ≤ n' → fullExpandList W n cs = some cs' → fullExpandList W n' cs = some cs') := by
  intro n
  induction n with
  | zero => exact ⟨fun _ _ _ _ h => by simp [fullExpand] at h, fun _ _ _ _ h => by simp [fullExpandList] at h⟩
  | succ n ih =>
    refine ⟨fun n' t t' hn h => ?_, fun n' cs cs' hn h => ?_⟩ <;>
      obtain ⟨n', rfl⟩ : ∃ k, n' = k + 1 := ⟨n' - 1, by omega⟩ <;>
      have hn := Nat.le_of_succ_le_succ hn
    · cases t with
      | ref k =>
        rw [fullExpand] at h ⊢
        cases hs : W k with
        | none => rwa [hs] at h
        | some s => rw [hs] at h; exact ih.1 n' s t' hn h
      | node l cs =>
        rw [fullExpand_node] at h ⊢
        obtain ⟨cs', hl, rfl⟩ := Option.map_eq_some_iff.1 h
        rw [ih.2 n' cs cs' hn hl]; rfl
    · cases cs with
      | nil => rwa [fullExpandList] at h ⊢
      | cons c cs =>
        rw [fullExpandList_cons] at h ⊢
        obtain ⟨c', h1, h⟩ := Option.bind_eq_some_iff.1 h
        obtain ⟨cs'', h2, rfl⟩ := Option.map_eq_some_iff.1 h
        rw [ih.1 n' c c' hn h1, ih.2 n' cs cs'' hn h2]; rfl

theorem fullExpand_mono {n' : Nat} (h : n ≤ n') {t t' : Tree K L} (ht : fullExpand W n t = some t') :
    fullExpand W n' t = some t' := (fullExpand_mono_both W n).1 n' t t' h ht

theorem fullExpandList_mono {n' : Nat} (h : n ≤ n') {cs cs' : List (Tree K L)}
    (ht : fullExpandList W n cs = some cs') : fullExpandList W n' cs = some cs' :=
  (fullExpand_mono_both W n).2 n' cs cs' h ht

theorem fullExpandList_all2 {cs cs' : List (Tree K L)} (h : fullExpandList W n cs = some cs') :
    All2 (FullExpands W) cs cs' := by
  induction cs generalizing n cs' with
  | nil => cases n <;> simp [fullExpandList] at h; subst h; trivial
  | cons c cs ih =>
    cases n with
    | zero => simp [fullExpandList] at h
    | succ n =>
      rw [fullExpandList_cons] at h
      obtain ⟨c', h1, h⟩ := Option.bind_eq_some_iff.1 h
      obtain ⟨cs'', h2, rfl⟩ := Option.map_eq_some_iff.1 h
      exact ⟨⟨n, h1⟩, ih h2⟩

theorem all2_fullExpandList {cs cs' : List (Tree K L)} (h : All2 (FullExpands W) cs cs') :
    ∃ n, fullExpandList W n cs = some cs' :=
  h.induction (motive := fun cs cs' => ∃ n, fullExpandList W n cs = some cs') ⟨1, rfl⟩
    fun c c' cs cs' ⟨n1, h1⟩ _ ⟨n2, h2⟩ => ⟨max n1 n2 + 1, by
      rw [fullExpandList_cons, fullExpand_mono (Nat.le_max_left n1 n2) h1,
        fullExpandList_mono (Nat.le_max_right n1 n2) h2]; rfl⟩

end fullExpand

/-! ### `expand` against the specification -/

section run
variable [DecidableEq K] (W : World K L) (c : Bool)

/-- What a successful run does, whatever the stack and the memo: the output is a partial expansion of the input,
the memo grows, and every new memo entry is a reference left in the output (a key found on the stack is
memoised at the moment its reference is kept). -/
theorem ok_run : ∀ n p m t t' m', expand W c n p m t = .ok (t', m') →
    Exp W t t' ∧ (∀ k, k ∈ m → k ∈ m') ∧ ∀ k, k ∈ m' → k ∈ m ∨ k ∈ refsOf t' := by
  refine expand_ok_induction W c ?hmemo ?hstack ?hdangling ?hfollow ?hleaf ?hcons
  case hmemo => exact fun _ => ⟨.keep _, fun _ => id, fun _ => .inl⟩
  case hstack => exact fun _ _ => ⟨.keep _, fun _ => List.mem_cons_of_mem _, fun k' h => by simpa [or_comm] using h⟩
  case hdangling => exact fun _ _ _ _ => ⟨.keep _, fun _ => id, fun _ => .inl⟩
  case hfollow => exact fun _ _ hs ih => ⟨.follow hs ih.1, ih.2⟩
  case hleaf => exact ⟨.refl W _, fun _ => id, fun _ => .inl⟩
  case hcons => exact fun ⟨he1, hg1, hn1⟩ ⟨he2, hg2, hn2⟩ =>
    ⟨he1.cons he2, fun k h => hg2 k (hg1 k h), fun k h =>
      (hn2 k h).elim (fun h => (hn1 k h).imp id fun h => mem_refsOf_cons.2 (.inl h))
        fun h => .inr (mem_refsOf_cons.2 (.inr h))⟩

/-- On an acyclic input nothing is ever kept: the memo is untouched and the output is the plain
substitution `fullExpand` (same fuel), whatever the stack and the (sound) memo. -/
theorem acyclic_run : ∀ n p m t t' m', expand W c n p m t = .ok (t', m') →
    StackInv W p t → (∀ k, k ∈ m → OnCycle W k) → Acyclic W t → m' = m ∧ fullExpand W n t = some t' := by
  refine expand_ok_induction W c ?hmemo ?hstack ?hdangling ?hfollow ?hleaf ?hcons
  case hmemo => exact fun hk _ hm ha => absurd (hm _ hk) (ha _ (reachFrom_ref.2 (.refl _)))
  case hstack => exact fun _ hk hs _ ha => absurd (hs _ hk _ (by simp)) (ha _ (reachFrom_ref.2 (.refl _)))
  case hdangling => exact fun _ _ hW _ _ _ _ => ⟨rfl, by rw [fullExpand, hW]⟩
  case hfollow => exact fun _ _ hs ih hst hm ha =>
    have := ih (hst.follow hs) hm (ha.follow hs)
    ⟨this.1, by rw [fullExpand, hs]; exact this.2⟩
  case hleaf => exact fun _ _ _ => ⟨rfl, rfl⟩
  case hcons =>
    intro n p m l c0 cs c' cs' m1 m2 ih1 ih2 hst hm ha
    obtain ⟨rfl, e1⟩ := ih1 hst.head hm ha.head
    have h2 := ih2 hst.tail hm ha.tail
    exact ⟨h2.1, fullExpand_cons e1 h2.2⟩

end run

end SpecModel.Expand
