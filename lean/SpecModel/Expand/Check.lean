/-
The executable checker that validates every expansion the REAL code performs (translation validation per run).

The harness abstracts the input documents and the output of `ExpandSpec` / `ExpandSchema…` into the abstract
reference graphs of `Expand/Core.lean` (keys = canonical target of a `$ref` as RFC 3986 + RFC 6901 read it from
the containing document, labels = everything of an element that is not a sub-element position) and hands both
to the compiled driver, which evaluates the definitions below.  Soundness is proved here:

  * `checkExp W keep n t t' = true → Exp W t t'`      (`t'` is a partial unfolding of `t`; `keep`: keys not to follow)
  * `checkWorld … = true → WorldExp W W'`              (the output document can stand in for the input document;
                                                        keys outside the checked list resolve in neither world)
  * hence `Equiv W t W' t'` (`check_sound`, C02): same fully dereferenced tree, for every depth
  * `onCycleB W n k = true → OnCycle W k`              (a `$ref` that was kept closes a cycle of the INPUT, C03)
  * `checkExp` with a non-empty `keep` list additionally never follows a key of that list (schemas in skip
    mode, C09); `checkExp_equiv` is `check_sound` for any such list
-/
import SpecModel.Expand.Meaning

namespace SpecModel.Expand

variable {K L : Type} [DecidableEq K] [DecidableEq L]

/-! ### partial unfolding -/

mutual
  /-- `keep`: keys that must not be followed (empty for a full expansion) -/
  def checkExp (W : World K L) (keep : List K) : Nat → Tree K L → Tree K L → Bool
    | 0, _, _ => false
    | n + 1, .ref k, t' =>
        (match t' with
         | .ref k' => decide (k = k')
         | .node _ _ => false) ||
        (!(decide (k ∈ keep)) && match W k with
         | some s => checkExp W keep n s t'
         | none => false)
    | n + 1, .node l cs, .node l' cs' => decide (l = l') && checkExpList W keep n cs cs'
    | _ + 1, .node _ _, .ref _ => false
  def checkExpList (W : World K L) (keep : List K) : Nat → List (Tree K L) → List (Tree K L) → Bool
    | 0, _, _ => false
    | _ + 1, [], [] => true
    | n + 1, c :: cs, c' :: cs' => checkExp W keep n c c' && checkExpList W keep n cs cs'
    | _ + 1, _, _ => false
end

theorem checkExp_sound_both (W : World K L) (keep : List K) :
    (∀ n t t', checkExp W keep n t t' = true → Exp W t t') ∧
    (∀ n cs cs', checkExpList W keep n cs cs' = true → All2 (Exp W) cs cs') := by
  -- along the clauses of the two definitions; the four that answer `false` go together at the end
  apply checkExp.mutual_induct
    (motive_1 := fun n t t' => checkExp W keep n t t' = true → Exp W t t')
    (motive_2 := fun n cs cs' => checkExpList W keep n cs cs' = true → All2 (Exp W) cs cs')
  case case2 =>
    intro n k t' ih h
    simp only [checkExp, Bool.or_eq_true, Bool.and_eq_true] at h
    rcases h with h | ⟨_, h⟩
    · cases t' with
      | ref k' => cases of_decide_eq_true h; exact .keep k
      | node l cs => cases h
    · cases hk : W k with
      | none => rw [hk] at h; cases h
      | some s => rw [hk] at h; exact .follow hk (ih s h)
  case case3 =>
    intro n l cs l' cs' ih h
    simp only [checkExp, Bool.and_eq_true, decide_eq_true_eq] at h
    exact h.1 ▸ Exp.node_iff.2 (ih h.2)
  case case6 => exact fun _ _ => trivial
  case case7 =>
    intro n c cs c' cs' ih1 ih2 h
    simp only [checkExpList, Bool.and_eq_true] at h
    exact ⟨ih1 h.1, ih2 h.2⟩
  all_goals intros; simp_all only [checkExp, checkExpList, Bool.false_eq_true]

theorem checkExp_sound {W : World K L} {keep : List K} {n : Nat} {t t' : Tree K L}
    (h : checkExp W keep n t t' = true) : Exp W t t' := (checkExp_sound_both W keep).1 n t t' h

/-- the skip-mode reading: a key of `keep` occurring as a reference leaf of the input is still a reference
leaf … this is what `checkExp` with a non-empty `keep` enforces on top of `Exp`: -/
theorem checkExp_keeps {W : World K L} {keep : List K} {n : Nat} {k : K} {t' : Tree K L}
    (hk : k ∈ keep) (h : checkExp W keep n (.ref k) t' = true) : t' = .ref k := by
  cases n with
  | zero => simp [checkExp] at h
  | succ n =>
    simp only [checkExp, Bool.or_eq_true, Bool.and_eq_true] at h
    rcases h with h | ⟨h, _⟩
    · cases t' with
      | ref k' => simp at h; subst h; rfl
      | node _ _ => simp at h
    · simp [hk] at h

/-! ### the output world -/

/-- for every listed key: missing in both worlds, or the new tree is a partial unfolding of the old one -/
def checkWorld (W W' : World K L) (n : Nat) (ks : List K) : Bool :=
  ks.all fun k =>
    match W k, W' k with
    | none, none => true
    | some s, some s' => checkExp W [] n s s'
    | _, _ => false

theorem checkWorld_sound {W W' : World K L} {n : Nat} {ks : List K}
    (h : checkWorld W W' n ks = true) (hout : ∀ k, k ∉ ks → W k = none ∧ W' k = none) : WorldExp W W' := by
  intro k
  by_cases hk : k ∈ ks
  · have := List.all_eq_true.mp h k hk
    split at this
    · exact .inl ⟨‹_›, ‹_›⟩
    · exact .inr ⟨_, _, ‹_›, ‹_›, checkExp_sound this⟩
    · cases this
  · exact .inl (hout k hk)

/-- What the checker accepts denotes the same fully dereferenced tree, whatever keys it was told to keep. -/
theorem checkExp_equiv {W W' : World K L} {keep : List K} {n m : Nat} {ks : List K} {t t' : Tree K L}
    (hw : checkWorld W W' n ks = true) (hout : ∀ k, k ∉ ks → W k = none ∧ W' k = none)
    (he : checkExp W keep m t t' = true) : Equiv W t W' t' :=
  exp_equiv (checkWorld_sound hw hout) (checkExp_sound he)

/-- **C02, per run.** If the checker accepts the abstracted input element `t`, output element `t'` and the two
worlds, then `t'` read in the output world denotes the same fully dereferenced tree as `t` in the input world. -/
theorem check_sound {W W' : World K L} {n m : Nat} {ks : List K} {t t' : Tree K L}
    (hw : checkWorld W W' n ks = true) (hout : ∀ k, k ∉ ks → W k = none ∧ W' k = none)
    (he : checkExp W [] m t t' = true) : Equiv W t W' t' := checkExp_equiv hw hout he

/-! ### cycles -/

/-- worklist reachability: is `target` reachable (zero or more edges) from a key of the stack? -/
def reachW (W : World K L) (target : K) : Nat → List K → List K → Bool
  | 0, _, _ => false
  | _ + 1, _, [] => false
  | n + 1, vis, b :: rest =>
      if b = target then true
      else if b ∈ vis then reachW W target n vis rest
      else match W b with
        | none => reachW W target n (b :: vis) rest
        | some t => reachW W target n (b :: vis) (refsOf t ++ rest)

omit [DecidableEq L] in
/-- a property of the keys on the worklist that edges preserve holds of the target, if found -/
theorem reachW_sound {W : World K L} {target : K} (P : K → Prop) (hP : ∀ a b, P a → Edge W a b → P b)
    (n : Nat) (vis stack : List K) (hs : ∀ b ∈ stack, P b) (h : reachW W target n vis stack = true) :
    P target := by
  fun_induction reachW W target n vis stack with
  | case1 | case2 => cases h      -- no fuel, or nothing left to visit
  | case3 => exact hs _ List.mem_cons_self
  | case4 _ _ _ _ _ _ ih | case5 _ _ _ _ _ _ _ ih =>      -- seen before, or unresolvable: on with the rest
    exact ih (fun x hx => hs x (List.mem_cons_of_mem _ hx)) h
  | case6 _ _ b _ _ _ t hb ih =>      -- the references of `W b` join the worklist
    refine ih (fun x hx => ?_) h
    rcases List.mem_append.1 hx with hx | hx
    · exact hP b x (hs b List.mem_cons_self) ⟨t, hb, hx⟩
    · exact hs x (List.mem_cons_of_mem _ hx)

/-- `k` reaches itself by at least one edge -/
def onCycleB (W : World K L) (n : Nat) (k : K) : Bool :=
  match W k with
  | none => false
  | some t => reachW W k n [] (refsOf t)

omit [DecidableEq L] in
theorem onCycleB_sound {W : World K L} {n : Nat} {k : K} (h : onCycleB W n k = true) : OnCycle W k := by
  unfold onCycleB at h
  split at h
  · cases h
  · rename_i t hk
    exact reachW_sound (Reach1 W k) (fun _ _ => Reach1.edge) n [] (refsOf t) (fun _ hb => .of_edge ⟨t, hk, hb⟩) h

/-- all reference leaves of the output are resolvable in the input world and lie on a cycle of it -/
def checkCuts (W : World K L) (n : Nat) (t' : Tree K L) : Bool :=
  (refsOf t').all fun k => (W k).isSome && onCycleB W n k

/-- C03, per run: every reference the checker accepts in an output is resolvable and on a cycle of the input -/
theorem checkCuts_sound {W : World K L} {n : Nat} {t' : Tree K L} (h : checkCuts W n t' = true) :
    ∀ k, k ∈ refsOf t' → W k ≠ none ∧ OnCycle W k := by
  intro k hk
  have hc := onCycleB_sound (Bool.and_eq_true_iff.1 (List.all_eq_true.mp h k hk)).2
  exact ⟨hc.resolvable, hc⟩

/-- continue-on-error: a kept reference is dangling, or on a cycle -/
def checkCutsOrDangling (W : World K L) (n : Nat) (t' : Tree K L) : Bool :=
  (refsOf t').all fun k => (W k).isNone || onCycleB W n k

omit [DecidableEq L] in
theorem checkCutsOrDangling_sound {W : World K L} {n : Nat} {t' : Tree K L}
    (h : checkCutsOrDangling W n t' = true) : ∀ k, k ∈ refsOf t' → W k = none ∨ OnCycle W k := by
  intro k hk
  exact (Bool.or_eq_true_iff.1 (List.all_eq_true.mp h k hk)).imp Option.isNone_iff_eq_none.1 onCycleB_sound

end SpecModel.Expand
