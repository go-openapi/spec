/-
The side conditions of `Expand/SideConditions.lean` on the regenerated facts about expander.go, evaluated once;
the property modules that rest on the shape of the expander (C02, C03, C09) quote them.
-/
import SpecModel.Expand.SideConditions

namespace SpecModel.Expand.Side
open SpecModel

theorem positions_complete : positionsComplete Gen.structs Gen.expandPositions = true := by decide +kernel

theorem sections_complete : sectionsComplete Gen.specSections = true := by decide +kernel

theorem operations_complete :
    operationsComplete Gen.pathItemOperations Gen.pathItemOperationFields = true := by decide +kernel

end SpecModel.Expand.Side
