/-
Helper lemmas for the abstract expansion core (`SpecModel.Expand.Core`) against the specification-side
definitions of `SpecModel.Expand.Sem`. Property theorems live in `SpecModel.Props.ExpandCore`.

  * graph basics (`Reach`, `Reach1`, `ReachFrom`), `acyclic_of_rank` (a checkable criterion for examples)
  * the equations of `expand`/`expandList`, one per branch, with `Res.bind` for the sequencing
  * `expand_induction` — induction over all runs of `expand`/`expandList`, the motive sees the outcome:
    `fuel_mono_both`, `terminates` (variant `unfollowed`) and `err_sound` are instances, and so is
    `expand_ok_induction`, the rule induction over successful runs, stated on trees alone, behind
    `kept_on_cycle_run`, `visit_run` (and `ok_run`, `acyclic_run` in `Meaning`)
  * `stackDepth(_both)`
  * `visit_run`/`visited_reach` — the set of followed keys is closed under edges (C08 completeness)
-/
import SpecModel.Expand.Sem

namespace SpecModel.Expand

variable {K L : Type} [DecidableEq K]

/-! ### Syntax and graph basics -/

attribute [simp] refsOf refsOfList

omit [DecidableEq K] in
theorem mem_refsOfList {k : K} {cs : List (Tree K L)} :
    k ∈ refsOfList cs ↔ ∃ c, c ∈ cs ∧ k ∈ refsOf c := by
  induction cs with
  | nil => simp
  | cons c cs ih => simp [ih]

section forall_refs
omit [DecidableEq K]
variable {P : K → Prop} {l : L}

theorem forall_refsOf_ref {k : K} : (∀ k', k' ∈ refsOf (Tree.ref k : Tree K L) → P k') ↔ P k := by simp

theorem forall_refsOf_leaf : ∀ k, k ∈ refsOf (Tree.node l [] : Tree K L) → P k := by simp

theorem mem_refsOf_cons {c : Tree K L} {cs : List (Tree K L)} {k : K} :
    k ∈ refsOf (.node l (c :: cs)) ↔ k ∈ refsOf c ∨ k ∈ refsOf (.node l cs) := by simp

theorem forall_refsOf_cons {c : Tree K L} {cs : List (Tree K L)} :
    (∀ k, k ∈ refsOf (.node l (c :: cs)) → P k) ↔
      (∀ k, k ∈ refsOf c → P k) ∧ ∀ k, k ∈ refsOf (.node l cs) → P k := by
  simp only [mem_refsOf_cons, or_imp, forall_and]

end forall_refs

omit [DecidableEq K] in
theorem size_pos (t : Tree K L) : 0 < size t := by cases t <;> simp [size] <;> omega

omit [DecidableEq K] in
theorem sizeList_pos (cs : List (Tree K L)) : 0 < sizeList cs := by cases cs <;> simp [sizeList] <;> omega

section graph
variable {W : World K L}
omit [DecidableEq K]

theorem Reach.trans {a b c : K} (h1 : Reach W a b) (h2 : Reach W b c) : Reach W a c := by
  induction h2 with
  | refl => exact h1
  | tail _ e ih => exact .tail ih e

theorem Reach.single {a b : K} (e : Edge W a b) : Reach W a b := .tail (.refl a) e

theorem Reach.head {a b c : K} (e : Edge W a b) (h : Reach W b c) : Reach W a c :=
  (Reach.single e).trans h

theorem Reach1.of_edge {a b : K} (e : Edge W a b) : Reach1 W a b := ⟨b, e, .refl b⟩

theorem Reach1.edge {a b c : K} (h : Reach1 W a b) (e : Edge W b c) : Reach1 W a c :=
  let ⟨x, e0, r⟩ := h; ⟨x, e0, .tail r e⟩

theorem Reach1.toReach {a b : K} (h : Reach1 W a b) : Reach W a b := by
  obtain ⟨x, e, r⟩ := h; exact Reach.head e r

theorem Reach1.trans {a b c : K} (h : Reach1 W a b) (h2 : Reach1 W b c) : Reach1 W a c :=
  let ⟨x, e, r⟩ := h; ⟨x, e, r.trans h2.toReach⟩

theorem OnCycle.resolvable {k : K} (h : OnCycle W k) : W k ≠ none := by
  obtain ⟨_, ⟨t, ht, _⟩, _⟩ := h; simp [ht]

theorem edge_of_mem {k k' : K} {t : Tree K L} (h : W k = some t) (hk : k' ∈ refsOf t) : Edge W k k' :=
  ⟨t, h, hk⟩

theorem reachFrom_ref {k k' : K} : ReachFrom W (Tree.ref k : Tree K L) k' ↔ Reach W k k' := by
  simp [ReachFrom]

theorem reachFrom_node {l : L} {cs : List (Tree K L)} {k : K} :
    ReachFrom W (Tree.node l cs) k ↔ ReachFromList W cs k := Iff.rfl

theorem reachFromList_cons {c : Tree K L} {cs : List (Tree K L)} {k : K} :
    ReachFromList W (c :: cs) k ↔ ReachFrom W c k ∨ ReachFromList W cs k := by
  simp only [ReachFromList, ReachFrom, refsOfList, List.mem_append, or_and_right, exists_or]

theorem reachFrom_cons {l : L} {c : Tree K L} {cs : List (Tree K L)} {k : K} :
    ReachFrom W (.node l (c :: cs)) k ↔ ReachFrom W c k ∨ ReachFrom W (.node l cs) k := by
  simp only [ReachFrom, mem_refsOf_cons, or_and_right, exists_or]

theorem reachFrom_follow {k k' : K} {s : Tree K L} (h : W k = some s) (hr : ReachFrom W s k') :
    ReachFrom W (Tree.ref k : Tree K L) k' := by
  obtain ⟨k0, hk0, r⟩ := hr
  exact reachFrom_ref.2 (Reach.head ⟨s, h, hk0⟩ r)

/-- A sufficient condition for `Acyclic` that is easy to check on a concrete world: a set `S` closed under
edges, containing the references of `t`, on which some rank strictly decreases along every edge. -/
theorem acyclic_of_rank {t : Tree K L} (S : K → Prop) (rank : K → Nat)
    (hS : ∀ k, k ∈ refsOf t → S k)
    (hcl : ∀ k k', S k → Edge W k k' → S k' ∧ rank k' < rank k) : Acyclic W t := by
  have hr : ∀ a b, Reach W a b → S a → S b ∧ rank b ≤ rank a := by
    intro a b r ha
    induction r with
    | refl => exact ⟨ha, Nat.le_refl _⟩
    | tail _ e ih => have := hcl _ _ ih.1 e; exact ⟨this.1, by omega⟩
  intro k ⟨k0, hk0, r0⟩ ⟨b, e, r⟩
  have hk := (hr _ _ r0 (hS k0 hk0)).1
  have h1 := hcl _ _ hk e
  have h2 := hr _ _ r h1.1
  omega

end graph

/-! ### The equations of `expand`, and induction over its runs -/

/-- sequencing of outcomes: the first one that is not `ok` is the outcome -/
def Res.bind {α β : Type} (r : Res K α) (f : α → Res K β) : Res K β :=
  match r with
  | .ok a => f a
  | .err k => .err k
  | .outOfFuel => .outOfFuel

section bind
omit [DecidableEq K]
variable {α β : Type} {r : Res K α} {f : α → Res K β}

theorem Res.bind_eq_ok {b : β} : r.bind f = .ok b ↔ ∃ a, r = .ok a ∧ f a = .ok b := by
  cases r <;> simp [Res.bind]

theorem Res.bind_eq_err {k : K} : r.bind f = .err k ↔ r = .err k ∨ ∃ a, r = .ok a ∧ f a = .err k := by
  cases r <;> simp [Res.bind]

theorem Res.bind_ne_outOfFuel :
    r.bind f ≠ .outOfFuel ↔ r ≠ .outOfFuel ∧ ∀ a, r = .ok a → f a ≠ .outOfFuel := by
  cases r <;> simp [Res.bind]

theorem Res.bind_congr {r' : Res K α} {f' : α → Res K β} (hr : r' = r)
    (hf : ∀ a, r = .ok a → f' a = f a) : r'.bind f' = r.bind f := by
  subst hr; cases r' <;> simp_all [Res.bind]

end bind

section equations
variable {W : World K L} {c : Bool} {n : Nat} {p m : List K} {k : K}

theorem expand_memo (h : k ∈ m) : expand W c (n + 1) p m (.ref k) = .ok (.ref k, m) := by
  simp [expand, h]

theorem expand_stack (hm : k ∉ m) (hp : k ∈ p) : expand W c (n + 1) p m (.ref k) = .ok (.ref k, k :: m) := by
  simp [expand, hm, hp]

theorem expand_dangling (hm : k ∉ m) (hp : k ∉ p) (hW : W k = none) :
    expand W c (n + 1) p m (.ref k) = if c then .ok (.ref k, m) else .err k := by
  simp [expand, hm, hp, hW]

theorem expand_follow {s : Tree K L} (hm : k ∉ m) (hp : k ∉ p) (hW : W k = some s) :
    expand W c (n + 1) p m (.ref k) = expand W c n (p ++ [k]) m s := by
  simp [expand, hm, hp, hW]

theorem expand_node {l : L} {cs : List (Tree K L)} :
    expand W c (n + 1) p m (.node l cs) =
      (expandList W c n p m cs).bind fun r => .ok (.node l r.1, r.2) := by
  rw [expand]; rcases expandList W c n p m cs with ⟨_, _⟩ | _ | _ <;> rfl

theorem expandList_nil : expandList W c (n + 1) p m [] = .ok ([], m) := by rw [expandList]

theorem expandList_cons {c0 : Tree K L} {cs : List (Tree K L)} :
    expandList W c (n + 1) p m (c0 :: cs) =
      (expand W c n p m c0).bind fun r =>
        (expandList W c n p r.2 cs).bind fun r' => .ok (r.1 :: r'.1, r'.2) := by
  rw [expandList]
  rcases expand W c n p m c0 with ⟨c', m1⟩ | _ | _
  · dsimp only [Res.bind]
    rcases expandList W c n p m1 cs with ⟨_, _⟩ | _ | _ <;> rfl
  · rfl
  · rfl

end equations

/-- Induction over the runs of `expand`/`expandList`, one case per branch of the definition. The motive sees
the outcome, so statements about errors and about running out of fuel are instances as well. -/
theorem expand_induction (W : World K L) (c : Bool)
    {P : Nat → List K → List K → Tree K L → Res K (Tree K L × List K) → Prop}
    {Q : Nat → List K → List K → List (Tree K L) → Res K (List (Tree K L) × List K) → Prop}
    (zero : ∀ {p m t}, P 0 p m t .outOfFuel)
    (memo : ∀ {n p m k}, k ∈ m → P (n+1) p m (.ref k) (.ok (.ref k, m)))
    (stack : ∀ {n p m k}, k ∉ m → k ∈ p → P (n+1) p m (.ref k) (.ok (.ref k, k :: m)))
    (dangling : ∀ {n p m k}, k ∉ m → k ∉ p → W k = none →
      P (n+1) p m (.ref k) (if c then .ok (.ref k, m) else .err k))
    (follow : ∀ {n p m k s}, k ∉ m → k ∉ p → W k = some s →
      P n (p ++ [k]) m s (expand W c n (p ++ [k]) m s) → P (n+1) p m (.ref k) (expand W c n (p ++ [k]) m s))
    (node : ∀ {n p m l cs}, Q n p m cs (expandList W c n p m cs) →
      P (n+1) p m (.node l cs) ((expandList W c n p m cs).bind fun r => .ok (.node l r.1, r.2)))
    (zeroL : ∀ {p m cs}, Q 0 p m cs .outOfFuel)
    (nil : ∀ {n p m}, Q (n+1) p m [] (.ok ([], m)))
    (cons : ∀ {n p m c0 cs}, P n p m c0 (expand W c n p m c0) →
      (∀ m1, Q n p m1 cs (expandList W c n p m1 cs)) →
      Q (n+1) p m (c0 :: cs) ((expand W c n p m c0).bind fun r =>
        (expandList W c n p r.2 cs).bind fun r' => .ok (r.1 :: r'.1, r'.2))) :
    ∀ n, (∀ p m t, P n p m t (expand W c n p m t)) ∧ (∀ p m cs, Q n p m cs (expandList W c n p m cs)) := by
  intro n
  induction n with
  | zero => exact ⟨fun _ _ _ => zero, fun _ _ _ => zeroL⟩
  | succ n ih =>
    refine ⟨fun p m t => ?_, fun p m cs => ?_⟩
    · cases t with
      | node l cs => rw [expand_node]; exact node (ih.2 p m cs)
      | ref k =>
        by_cases hm : k ∈ m
        · rw [expand_memo hm]; exact memo hm
        by_cases hp : k ∈ p
        · rw [expand_stack hm hp]; exact stack hm hp
        cases hW : W k with
        | none => rw [expand_dangling hm hp hW]; exact dangling hm hp hW
        | some s => rw [expand_follow hm hp hW]; exact follow hm hp hW (ih.1 _ m s)
    · cases cs with
      | nil => rw [expandList_nil]; exact nil
      | cons c0 cs => rw [expandList_cons]; exact cons (ih.1 p m c0) (fun m1 => ih.2 p m1 cs)

/-- Rule induction over the successful runs, on trees alone: `expand_induction` with the other outcomes
discarded and the children of a node walked as `expandList` walks them, none left (`hleaf`) or a first child and
then the node of the remaining ones (`hcons`: two units of fuel, one for the node and one for the list cell).
The fuel is exposed because `acyclic_run` needs it. -/
theorem expand_ok_induction (W : World K L) (c : Bool)
    {P : Nat → List K → List K → Tree K L → Tree K L → List K → Prop}
    (hmemo : ∀ {n p m k}, k ∈ m → P (n+1) p m (.ref k) (.ref k) m)
    (hstack : ∀ {n p m k}, k ∉ m → k ∈ p → P (n+1) p m (.ref k) (.ref k) (k :: m))
    (hdangling : ∀ {n p m k}, k ∉ m → k ∉ p → W k = none → c = true → P (n+1) p m (.ref k) (.ref k) m)
    (hfollow : ∀ {n p m k s s' m'}, k ∉ m → k ∉ p → W k = some s →
      P n (p ++ [k]) m s s' m' → P (n+1) p m (.ref k) s' m')
    (hleaf : ∀ {n p m l}, P (n+2) p m (.node l []) (.node l []) m)
    (hcons : ∀ {n p m l c0 cs c' cs' m1 m2}, P n p m c0 c' m1 → P (n+1) p m1 (.node l cs) (.node l cs') m2 →
      P (n+2) p m (.node l (c0 :: cs)) (.node l (c' :: cs')) m2) :
    ∀ n p m t t' m', expand W c n p m t = .ok (t', m') → P n p m t t' m' := by
  have key := expand_induction W c
    (P := fun n p m t r => ∀ t' m', r = .ok (t', m') → P n p m t t' m')
    (Q := fun n p m cs r => ∀ l cs' m', r = .ok (cs', m') → P (n+1) p m (.node l cs) (.node l cs') m')
    (zero := fun _ _ => nofun) (zeroL := fun _ _ _ => nofun)
    (memo := fun hm _ _ h => by cases h; exact hmemo hm)
    (stack := fun hm hp _ _ h => by cases h; exact hstack hm hp)
    (dangling := fun hm hp hW _ _ h => by cases c <;> cases h; exact hdangling hm hp hW rfl)
    (follow := fun hm hp hW ih t' m' h => hfollow hm hp hW (ih t' m' h))
    (nil := fun _ _ _ h => by cases h; exact hleaf)
    (node := fun ih t' m' h => by
      obtain ⟨⟨cs', m''⟩, hl, h⟩ := Res.bind_eq_ok.1 h
      cases h; exact ih _ cs' _ hl)
    (cons := fun ihP ihQ l cs'' m' h => by
      obtain ⟨⟨c', m1⟩, h1, h⟩ := Res.bind_eq_ok.1 h
      obtain ⟨⟨cs', m2⟩, h2, h⟩ := Res.bind_eq_ok.1 h
      cases h; exact hcons (ihP _ _ h1) (ihQ m1 l _ _ h2))
  exact fun n => (key n).1

/-! ### Fuel -/

theorem fuel_mono_both (W : World K L) (c : Bool) (d : Nat) :
    ∀ n, (∀ p m t, expand W c n p m t ≠ .outOfFuel → expand W c (n + d) p m t = expand W c n p m t) ∧
         (∀ p m cs, expandList W c n p m cs ≠ .outOfFuel →
            expandList W c (n + d) p m cs = expandList W c n p m cs) := by
  apply expand_induction W c
    (P := fun n p m t r => r ≠ .outOfFuel → expand W c (n + d) p m t = r)
    (Q := fun n p m cs r => r ≠ .outOfFuel → expandList W c (n + d) p m cs = r)
    (zero := fun h => absurd rfl h) (zeroL := fun h => absurd rfl h)
  -- in every case `n + 1 + d` has to read `(n + d) + 1` before the equation of `expand` applies
  case memo => exact fun hm _ => by rw [Nat.add_right_comm, expand_memo hm]
  case stack => exact fun hm hp _ => by rw [Nat.add_right_comm, expand_stack hm hp]
  case dangling => exact fun hm hp hW _ => by rw [Nat.add_right_comm, expand_dangling hm hp hW]
  case follow => exact fun hm hp hW ih h => by rw [Nat.add_right_comm, expand_follow hm hp hW, ih h]
  case nil => exact fun _ => by rw [Nat.add_right_comm, expandList_nil]
  case node =>
    intro n p m l cs ih h
    rw [Nat.add_right_comm, expand_node]
    exact Res.bind_congr (ih (Res.bind_ne_outOfFuel.1 h).1) fun _ _ => rfl
  case cons =>
    intro n p m c0 cs ihP ihQ h
    have ⟨h1, h2⟩ := Res.bind_ne_outOfFuel.1 h
    rw [Nat.add_right_comm, expandList_cons]
    exact Res.bind_congr (ihP h1) fun r hr =>
      Res.bind_congr (ihQ r.2 (Res.bind_ne_outOfFuel.1 (h2 r hr)).1) fun _ _ => rfl

/-! ### Termination variant -/

/-- number of keys of `ks` (with multiplicity) that are not on the stack -/
def unfollowed (ks p : List K) : Nat := (ks.filter fun x => decide (x ∉ p)).length

theorem unfollowed_le (ks p : List K) : unfollowed ks p ≤ ks.length := List.length_filter_le _ _

theorem unfollowed_push_lt {ks p : List K} {k : K} (hk : k ∈ ks) (hp : k ∉ p) :
    unfollowed ks (p ++ [k]) < unfollowed ks p := by
  have e : (ks.filter fun x => decide (x ∉ p ++ [k])) =
      (ks.filter fun x => decide (x ∉ p)).filter fun x => decide (x ≠ k) := by
    rw [List.filter_filter]; congr; funext x; simp [and_comm]
  rw [unfollowed, e]
  exact List.length_filter_lt_length_iff_exists.2 ⟨k, List.mem_filter.2 ⟨hk, by simpa using hp⟩, by simp⟩

omit [DecidableEq K] in
theorem size_le_maxSize {W : World K L} {ks : List K} {k : K} {t : Tree K L} (hk : k ∈ ks)
    (ht : W k = some t) : size t ≤ maxSize W ks := by
  induction ks with
  | nil => simp at hk
  | cons x ks ih =>
    simp only [maxSize, List.map_cons, List.foldr_cons] at ih ⊢
    rcases List.mem_cons.1 hk with rfl | h
    · simp [ht]; omega
    · have := ih h; omega

/-- The termination proof: fuel `size t + (unfollowed keys) * (largest tree)` suffices. -/
theorem terminates {W : World K L} {ks : List K} (hW : FiniteWorld W ks) (c : Bool) (n : Nat) :
    ∀ p m t, size t + unfollowed ks p * maxSize W ks ≤ n → expand W c n p m t ≠ .outOfFuel := by
  refine (expand_induction W c
    (P := fun n p m t r => size t + unfollowed ks p * maxSize W ks ≤ n → r ≠ .outOfFuel)
    (Q := fun n p m cs r => sizeList cs + unfollowed ks p * maxSize W ks ≤ n → r ≠ .outOfFuel)
    (memo := fun _ _ => nofun) (stack := fun _ _ _ => nofun) (nil := fun _ => nofun)
    ?zero ?dangling ?follow ?node ?zeroL ?cons n).1
  case zero => exact fun {p m t} h => by have := size_pos t; omega
  case zeroL => exact fun {p m cs} h => by have := sizeList_pos cs; omega
  case dangling => exact fun _ _ _ _ => by cases c <;> nofun
  case follow =>
    intro n p m k s _ hp hs ih h
    have hk : k ∈ ks := hW k (by simp [hs])
    -- one key fewer left to follow pays for the largest tree of the world
    have h1 : (unfollowed ks (p ++ [k]) + 1) * maxSize W ks ≤ unfollowed ks p * maxSize W ks :=
      Nat.mul_le_mul_right _ (unfollowed_push_lt hk hp)
    have h2 := size_le_maxSize hk hs
    rw [Nat.add_mul] at h1
    simp only [size] at h
    exact ih (by omega)
  case node =>
    intro n p m l cs ih h
    simp only [size] at h
    exact Res.bind_ne_outOfFuel.2 ⟨ih (by omega), fun _ _ => nofun⟩
  case cons =>
    intro n p m c0 cs ihP ihQ h
    simp only [sizeList] at h
    exact Res.bind_ne_outOfFuel.2 ⟨ihP (by omega), fun r _ =>
      Res.bind_ne_outOfFuel.2 ⟨ihQ r.2 (by omega), fun _ _ => nofun⟩⟩

/-! ### Stack depth

`stackDepth` follows the control flow of `expand`/`expandList` exactly (same tests, memo threaded through the
siblings by the results of `expand` itself) and returns the largest `parents.length` over all the calls made,
the initial one included. -/
mutual
  def stackDepth (W : World K L) (c : Bool) : Nat → List K → List K → Tree K L → Nat
    | 0, p, _, _ => p.length
    | n + 1, p, m, .ref k =>
        if k ∈ m then p.length
        else if k ∈ p then p.length
        else match W k with
          | none => p.length
          | some t => max p.length (stackDepth W c n (p ++ [k]) m t)
    | n + 1, p, m, .node _ cs => max p.length (stackDepthList W c n p m cs)
  def stackDepthList (W : World K L) (c : Bool) : Nat → List K → List K → List (Tree K L) → Nat
    | 0, p, _, _ => p.length
    | _ + 1, p, _, [] => p.length
    | n + 1, p, m, c0 :: cs =>
        max (stackDepth W c n p m c0)
          (match expand W c n p m c0 with
           | .ok (_, m') => stackDepthList W c n p m' cs
           | _ => p.length)
end

theorem stackDepth_both {W : World K L} {ks : List K} (hW : FiniteWorld W ks) (c : Bool) :
    (∀ n p m t, stackDepth W c n p m t ≤ p.length + unfollowed ks p) ∧
    (∀ n p m cs, stackDepthList W c n p m cs ≤ p.length + unfollowed ks p) := by
  -- functional induction; only two branches push or pass on a stack, the others return `p.length`
  apply stackDepth.mutual_induct W
    (motive_1 := fun n p m t => stackDepth W c n p m t ≤ p.length + unfollowed ks p)
    (motive_2 := fun n p m cs => stackDepthList W c n p m cs ≤ p.length + unfollowed ks p)
  case case5 =>    -- a followed reference: one more on the stack, one fewer left to follow
    intro n p m k hm hp s hs ih
    have := unfollowed_push_lt (hW k (by simp [hs])) hp
    simp only [stackDepth, hm, hp, hs, if_false, List.length_append, List.length_singleton] at ih ⊢
    omega
  case case9 =>    -- a child and its younger siblings, same stack
    intro n p m c0 cs ih1 ih2
    simp only [stackDepthList]
    split
    · have := ih2 ‹_›; omega
    · omega
  all_goals intros; simp only [stackDepth, stackDepthList, if_true, if_false, *]; omega

/-! ### Invariants of successful runs -/

section inv
variable {W : World K L} {c : Bool}

omit [DecidableEq K] in
theorem stackInv_nil (W : World K L) (t : Tree K L) : StackInv W [] t := by intro q hq; simp at hq

omit [DecidableEq K] in
theorem StackInv.follow {p : List K} {k : K} {s : Tree K L} (h : StackInv W p (.ref k))
    (hs : W k = some s) : StackInv W (p ++ [k]) s := by
  intro q hq k' hk'
  have e : Edge W k k' := ⟨s, hs, hk'⟩
  rcases List.mem_append.1 hq with hq | hq
  · exact (h q hq k (by simp)).edge e
  · simp at hq; subst hq; exact .of_edge e

section children
omit [DecidableEq K]
variable {p : List K} {l : L} {c0 : Tree K L} {cs : List (Tree K L)}

theorem StackInv.head (h : StackInv W p (.node l (c0 :: cs))) : StackInv W p c0 :=
  fun q hq => (forall_refsOf_cons.1 (h q hq)).1

theorem StackInv.tail (h : StackInv W p (.node l (c0 :: cs))) : StackInv W p (.node l cs) :=
  fun q hq => (forall_refsOf_cons.1 (h q hq)).2

end children

/-- C03 core: the memo only ever holds keys on a cycle; a reference left in the output is on a cycle or,
in continue mode, unresolvable. -/
theorem kept_on_cycle_run (W : World K L) (c : Bool) : ∀ n p m t t' m', expand W c n p m t = .ok (t', m') →
    StackInv W p t → (∀ k, k ∈ m → OnCycle W k) →
    (∀ k, k ∈ m' → OnCycle W k) ∧ (∀ k, k ∈ refsOf t' → OnCycle W k ∨ (c = true ∧ W k = none)) := by
  refine expand_ok_induction W c ?hmemo ?hstack ?hdangling ?hfollow ?hleaf ?hcons
  case hmemo => exact fun hk _ hm => ⟨hm, forall_refsOf_ref.2 (.inl (hm _ hk))⟩
  case hstack => exact fun _ hk hs hm =>
    have hc := hs _ hk _ (by simp)
    ⟨List.forall_mem_cons.2 ⟨hc, hm⟩, forall_refsOf_ref.2 (.inl hc)⟩
  case hdangling => exact fun _ _ hW hc _ hm => ⟨hm, forall_refsOf_ref.2 (.inr ⟨hc, hW⟩)⟩
  case hfollow => exact fun _ _ hs ih hst hm => ih (hst.follow hs) hm
  case hleaf => exact fun _ hm => ⟨hm, forall_refsOf_leaf⟩
  case hcons => exact fun ih1 ih2 hst hm =>
    have h1 := ih1 hst.head hm
    have h2 := ih2 hst.tail h1.1
    ⟨h2.1, forall_refsOf_cons.2 ⟨h1.2, h2.2⟩⟩

section acyclic
omit [DecidableEq K]
variable {l : L} {c0 : Tree K L} {cs : List (Tree K L)}

theorem Acyclic.follow {k : K} {s : Tree K L} (h : Acyclic W (.ref k)) (hs : W k = some s) : Acyclic W s :=
  fun k' hr => h k' (reachFrom_follow hs hr)

theorem Acyclic.head (h : Acyclic W (.node l (c0 :: cs))) : Acyclic W c0 :=
  fun k hk => h k (reachFrom_cons.2 (.inl hk))

theorem Acyclic.tail (h : Acyclic W (.node l (c0 :: cs))) : Acyclic W (.node l cs) :=
  fun k hk => h k (reachFrom_cons.2 (.inr hk))

end acyclic

/-! ### The visited set (C08 completeness, continue_verbatim)

`Cov V m' out k`: the key `k` met by the traversal has been dealt with by the end of the run: it was followed
(`V`), or it is in the final memo `m'` (it was found there or on the stack, and a key found on the stack is
memoised), or it is unresolvable and sits verbatim in the output. Speaking of the *final* memo makes the
predicate monotone in all its arguments (`Cov.mono`), which is all the sibling and follow cases need. -/
def Cov (W : World K L) (V : K → Prop) (m' out : List K) (k : K) : Prop :=
  V k ∨ k ∈ m' ∨ (W k = none ∧ k ∈ out)

omit [DecidableEq K] in
theorem Cov.mono {V V' : K → Prop} {m m' out out' : List K} (hV : ∀ k, V k → V' k)
    (hm : ∀ k, k ∈ m → k ∈ m') (ho : ∀ k, k ∈ out → k ∈ out') {k : K} (h : Cov W V m out k) :
    Cov W V' m' out' k := h.imp (hV k) (.imp (hm k) (.imp id (ho k)))

/-- the set `V` of keys followed by a successful run is closed under edges, up to `Cov` -/
def Visited (W : World K L) (V : K → Prop) (m' out : List K) : Prop :=
  ∀ k, V k → W k ≠ none ∧ ∀ k', Edge W k k' → Cov W V m' out k'

theorem visit_run (W : World K L) (c : Bool) : ∀ n p m t t' m', expand W c n p m t = .ok (t', m') →
    ∃ V : K → Prop, Visited W V m' (refsOf t') ∧ (∀ k, k ∈ refsOf t → Cov W V m' (refsOf t') k) ∧
      (∀ k, k ∈ m' → k ∈ m ∨ k ∈ p ∨ V k) ∧ ∀ k, k ∈ m → k ∈ m' := by
  refine expand_ok_induction W c ?hmemo ?hstack ?hdangling ?hfollow ?hleaf ?hcons
  case hmemo => exact fun hk =>
    ⟨fun _ => False, fun _ => nofun, forall_refsOf_ref.2 (.inr (.inl hk)), fun _ => .inl, fun _ => id⟩
  case hstack => exact fun _ hk =>
    ⟨fun _ => False, fun _ => nofun, forall_refsOf_ref.2 (.inr (.inl List.mem_cons_self)),
      List.forall_mem_cons.2 ⟨.inr (.inl hk), fun _ => .inl⟩, fun _ => List.mem_cons_of_mem _⟩
  case hdangling => exact fun _ _ hW _ =>
    ⟨fun _ => False, fun _ => nofun, forall_refsOf_ref.2 (.inr (.inr ⟨hW, by simp⟩)), fun _ => .inl, fun _ => id⟩
  case hleaf => exact ⟨fun _ => False, fun _ => nofun, forall_refsOf_leaf, fun _ => .inl, fun _ => id⟩
  case hfollow =>
    intro n p m k s s' m' _ _ hs ⟨V, hV, hrefs, hmemo, hgrow⟩
    have lift {k'} : Cov W V m' (refsOf s') k' → Cov W (fun x => V x ∨ x = k) m' (refsOf s') k' :=
      Cov.mono (fun _ => .inl) (fun _ => id) (fun _ => id)
    refine ⟨fun x => V x ∨ x = k, ?_, forall_refsOf_ref.2 (.inl (.inr rfl)), fun k' h => ?_, hgrow⟩
    · rintro x (hx | rfl)
      · exact ⟨(hV x hx).1, fun k' e => lift ((hV x hx).2 k' e)⟩
      · refine ⟨by simp [hs], fun k' ⟨t, ht, hk'⟩ => lift (hrefs k' ?_)⟩
        rw [hs] at ht; cases ht; exact hk'
    · rcases hmemo k' h with h | h | h
      · exact .inl h
      · rcases List.mem_append.1 h with h | h
        · exact .inr (.inl h)
        · simp at h; exact .inr (.inr (.inr h))
      · exact .inr (.inr (.inl h))
  case hcons =>
    intro n p m l c0 cs c' cs' m1 m2 ⟨V1, hV1, hrefs1, hmemo1, hgrow1⟩ ⟨V2, hV2, hrefs2, hmemo2, hgrow2⟩
    have lift1 {k'} : Cov W V1 m1 (refsOf c') k' →
        Cov W (fun x => V1 x ∨ V2 x) m2 (refsOf (.node l (c' :: cs'))) k' :=
      Cov.mono (fun _ => .inl) hgrow2 (fun _ h => mem_refsOf_cons.2 (.inl h))
    have lift2 {k'} : Cov W V2 m2 (refsOf (.node l cs')) k' →
        Cov W (fun x => V1 x ∨ V2 x) m2 (refsOf (.node l (c' :: cs'))) k' :=
      Cov.mono (fun _ => .inr) (fun _ => id) (fun _ h => mem_refsOf_cons.2 (.inr h))
    refine ⟨fun x => V1 x ∨ V2 x, ?_, ?_, fun k' h => ?_, fun k h => hgrow2 k (hgrow1 k h)⟩
    · rintro x (hx | hx)
      · exact ⟨(hV1 x hx).1, fun k' e => lift1 ((hV1 x hx).2 k' e)⟩
      · exact ⟨(hV2 x hx).1, fun k' e => lift2 ((hV2 x hx).2 k' e)⟩
    · exact forall_refsOf_cons.2 ⟨fun k' h => lift1 (hrefs1 k' h), fun k' h => lift2 (hrefs2 k' h)⟩
    · rcases hmemo2 k' h with h | h | h
      · exact (hmemo1 k' h).imp id (.imp id .inl)
      · exact .inr (.inl h)
      · exact .inr (.inr (.inr h))

omit [DecidableEq K] in
/-- if every memoised key was followed (as after a run from the empty stack and memo), the visited set covers
everything reachable -/
theorem visited_reach {V : K → Prop} {m' out : List K} (hV : Visited W V m' out) (hm : ∀ k, k ∈ m' → V k)
    {k0 k : K} (h0 : Cov W V m' out k0) (r : Reach W k0 k) : V k ∨ (W k = none ∧ k ∈ out) := by
  have settle {k} (h : Cov W V m' out k) : V k ∨ (W k = none ∧ k ∈ out) :=
    h.elim .inl fun h => h.elim (fun h => .inl (hm k h)) .inr
  induction r with
  | refl => exact settle h0
  | tail _ e ih =>
    rcases ih with h | h
    · exact settle ((hV _ h).2 _ e)
    · obtain ⟨t, ht, _⟩ := e; simp [h.1] at ht

/-! ### Errors -/

theorem err_sound (W : World K L) (c : Bool) (n : Nat) :
    ∀ p m t k, expand W c n p m t = .err k → c = false ∧ W k = none ∧ ReachFrom W t k := by
  refine (expand_induction W c
    (P := fun _ _ _ t r => ∀ k, r = .err k → c = false ∧ W k = none ∧ ReachFrom W t k)
    (Q := fun _ _ _ cs r => ∀ l k, r = .err k → c = false ∧ W k = none ∧ ReachFrom W (.node l cs) k)
    (zero := fun _ => nofun) (zeroL := fun _ _ => nofun) (nil := fun _ _ => nofun)
    (memo := fun _ _ => nofun) (stack := fun _ _ _ => nofun) ?dangling ?follow ?node ?cons n).1
  case dangling =>
    intro _ _ _ k _ _ hW k' h
    cases c <;> cases h
    exact ⟨rfl, hW, reachFrom_ref.2 (.refl k)⟩
  case follow => exact fun _ _ hW ih k h =>
    have ⟨hc, hk, hr⟩ := ih k h
    ⟨hc, hk, reachFrom_follow hW hr⟩
  case node =>
    intro _ _ _ l _ ih k h
    rcases Res.bind_eq_err.1 h with h | ⟨_, _, h⟩
    · exact ih l k h
    · cases h
  case cons =>
    intro _ _ _ _ _ ihP ihQ l k h
    rcases Res.bind_eq_err.1 h with h | ⟨r, _, h⟩
    · have ⟨hc, hk, hr⟩ := ihP k h
      exact ⟨hc, hk, reachFrom_cons.2 (.inl hr)⟩
    · rcases Res.bind_eq_err.1 h with h | ⟨_, _, h⟩
      · have ⟨hc, hk, hr⟩ := ihQ r.2 l k h
        exact ⟨hc, hk, reachFrom_cons.2 (.inr hr)⟩
      · cases h

end inv

end SpecModel.Expand
