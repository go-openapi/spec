/-
Two facts that make closed statements about the models cheap for the kernel to evaluate (`decide +kernel`).

* `Json.beq` decides equality.  With the `DecidableEq` instances, an equation between outputs of the models
  (`norm k j = .ok j'`, `lookupTok … = some v`) is evaluated by the kernel alone, where `rfl` has the elaborator
  evaluate both sides first, at about twice the kernel's cost.
* `toList_eq_fast`: the characters of an ASCII string are its bytes.  A string literal is stored as UTF-8 bytes and the
  kernel decodes them, with all the proofs the decoder carries, every time a model asks for `s.toList`: about
  eight times what reading the bytes costs.  Rewriting with `toList_eq_fast` before `decide +kernel` (after unfolding
  the definitions down to their `toList`) removes the decoding from sweeps over the table names.
-/
import SpecModel.Json

namespace SpecModel
namespace Json

mutual
  theorem beq_iff : ∀ a b : Json, beq a b = true ↔ a = b
    | .null, b | .bool _, b | .num _, b | .str _, b => by cases b <;> simp [beq]
    | .arr xs, b => by cases b <;> simp [beq, beqList_iff xs]
    | .obj ms, b => by cases b <;> simp [beq, beqMembers_iff ms]
  theorem beqList_iff : ∀ a b : List Json, beqList a b = true ↔ a = b
    | [], b => by cases b <;> simp [beqList]
    | x :: xs, b => by cases b <;> simp [beqList, beq_iff x, beqList_iff xs]
  theorem beqMembers_iff : ∀ a b : List (String × Json), beqMembers a b = true ↔ a = b
    | [], b => by cases b <;> simp [beqMembers]
    | (k, x) :: xs, b => by
      cases b with
      | nil => simp [beqMembers]
      | cons m ms => obtain ⟨l, y⟩ := m; simp [beqMembers, beq_iff x, beqMembers_iff xs, and_assoc]
end

instance : DecidableEq Json := fun a b => decidable_of_iff _ (beq_iff a b)

end Json

/-! ### the characters of an ASCII string -/

theorem utf8EncodeChar_ascii {c : Char} (h : ∀ b ∈ String.utf8EncodeChar c, b < 128) :
    String.utf8EncodeChar c = [UInt8.ofNat c.val.toNat] ∧ c.val.toNat ≤ 127 := by
  by_cases h1 : c.val.toNat ≤ 127
  · exact ⟨if_pos h1, h1⟩
  · exfalso
    -- each of the three longer encodings ends in the continuation byte `v % 64 + 128`
    have hm : UInt8.ofNat (c.val.toNat % 64 + 128) ∈ String.utf8EncodeChar c := by
      unfold String.utf8EncodeChar
      rw [if_neg h1]
      split
      · exact List.mem_cons_of_mem _ List.mem_cons_self
      · split
        · exact List.mem_cons_of_mem _ (List.mem_cons_of_mem _ List.mem_cons_self)
        · exact List.mem_cons_of_mem _ (List.mem_cons_of_mem _ (List.mem_cons_of_mem _ List.mem_cons_self))
    have := h _ hm
    rw [UInt8.lt_iff_toNat_lt, UInt8.toNat_ofNat'] at this
    have : (c.val.toNat % 64 + 128) % 2 ^ 8 < 128 := this
    omega

theorem chars_of_ascii (l : List Char) (h : ∀ b ∈ l.flatMap String.utf8EncodeChar, b < 128) :
    (l.flatMap String.utf8EncodeChar).map (fun b => Char.ofNat b.toNat) = l := by
  induction l with
  | nil => rfl
  | cons c l ih =>
    rw [List.flatMap_cons] at h ⊢
    obtain ⟨hc, hle⟩ := utf8EncodeChar_ascii (fun b hb => h b (List.mem_append_left _ hb))
    rw [hc, List.singleton_append, List.map_cons, ih (fun b hb => h b (List.mem_append_right _ hb)),
      UInt8.toNat_ofNat', Nat.mod_eq_of_lt (by omega)]
    exact congrArg (· :: l) (Char.ofNat_toNat c)

/-- `String.toList`, read off the UTF-8 bytes when all of them are ASCII -/
def fastToList (s : String) : List Char :=
  if s.toByteArray.data.toList.all (· < 128) then s.toByteArray.data.toList.map fun b => Char.ofNat b.toNat
  else s.toList

theorem toList_eq_fast (s : String) : s.toList = fastToList s := by
  unfold fastToList
  split
  · rename_i h
    rw [← String.utf8Encode_toList, List.utf8Encode, List.data_toByteArray] at h ⊢
    exact (chars_of_ascii _ fun b hb => by simpa using List.all_eq_true.mp h b hb).symm
  · rfl

end SpecModel

deriving instance DecidableEq for Except
