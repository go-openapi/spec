/-
C07, whole documents: normalisation is idempotent.

    norm K j = ok j₁  →  Clean j₁  →  norm K j₁ = ok j₁

(proved here for `normF` at the budget of the first pass, `normF_idem`; the `norm` form is `Props/C07`, through `Fuel.lean`)
for every kind K, where `Clean` (Clean.lean) is a kind-agnostic, decidable condition on the OUTPUT of the first pass.
That every `$ref` / `$schema` text is a fixed point of the URL printing model is not assumed: it is proved
(`refOfMap_shape_fixed`, from `urlString_idem`; C13 is about that).

The proof re-runs the codec on its own output `out = b₁ ++ … ++ bₙ`.  What a kind returns is a concatenation of
conforming parts (`ConfAll`, C06); with pairwise exclusive descriptors each part owns its share of the output
(`Owns out dᵢ bᵢ`: what `out` holds under the names `dᵢ` claims is exactly `bᵢ`), and every part codec, given an
output in which it owns what it wrote, writes the same again: the struct codec field by field (`normFT_image_fixed`:
a field codec is the identity on its own image; `field_second`: the `omitempty` decision repeats; `normFields_iff`: the
struct codec is a `filterMap` over its table), the parts read off the generic map because Go maps are already sorted.
The regular kinds run a list of such parts (`normParts_second`); the hand-written kinds call the same part lemmas on
their fixed lists.
Side conditions on the GENERATED tables are collected in `IdemTablesOK` (`decide`).
-/
import SpecModel.Codec.Clean
import SpecModel.Codec.UrlIdem

namespace SpecModel.Codec
open SpecModel

-- no proof may look inside the generated tables (see Lemmas.lean)
attribute [local irreducible] Gen.structs Gen.kinds

/-! ### element-wise codecs on their own output -/

theorem mapR_second {f : Json → R Json} {xs ys : List Json} (h : mapR f xs = .ok ys)
    (hf : ∀ y ∈ ys, ∀ x, f x = .ok y → f y = .ok y) : mapR f ys = .ok ys :=
  mapR_fixed ys fun y hy => let ⟨x, _, hx⟩ := mapR_mem h y hy; hf y hy x hx

theorem mapMembersR_second {f : Json → R Json} {ms ys : List (String × Json)} (h : mapMembersR f ms = .ok ys)
    (hf : ∀ m ∈ ys, ∀ x, f x = .ok m.2 → f m.2 = .ok m.2) : mapMembersR f ys = .ok ys :=
  have ⟨hs, hm⟩ := mapMembersR_mem h
  mapMembersR_fixed ys hs fun m hm' => let ⟨x, _, _, hx⟩ := hm m hm'; hf m hm' x.2 hx

theorem strElem_fixed {x y : Json} (h : strElem x = .ok y) : strElem y = .ok y := by
  obtain ⟨s, rfl⟩ := strElem_isStr h; rfl

theorem strsVal_fixed {x y : Json} (h : strsVal x = .ok y) : strsVal y = .ok y := by
  cases x <;> simp only [strsVal, bind_ok, pure_ok, goError_ok] at h
  · subst h; rfl
  · obtain ⟨ys, hys, rfl⟩ := h
    simp only [strsVal, mapR_second hys fun _ _ _ => strElem_fixed, ok_bind]; rfl

theorem secReqVal_fixed {x y : Json} (h : secReqVal x = .ok y) : secReqVal y = .ok y := by
  cases x <;> simp only [secReqVal, bind_ok, pure_ok, goError_ok] at h
  · subst h; rfl
  · obtain ⟨ys, hys, rfl⟩ := h
    simp only [secReqVal, mapMembersR_second hys fun _ _ _ => strsVal_fixed, ok_bind]; rfl

/-! ### what the recursion has to provide -/

structure RecGood (rec : Rec) : Prop where
  idem : ∀ t v r, rec t v = .ok r → Clean r → rec t r = .ok r
  isObj : ∀ k v r, rec (.kind k) v = .ok r → ∃ ms, r = .obj ms
  nd : RecND rec

theorem ptrTo_fixed {rec : Rec} (hr : RecGood rec) (t : Target) {x y : Json} (h : ptrTo rec t x = .ok y)
    (hc : Clean y) (hn : y ≠ .null) : ptrTo rec t y = .ok y := by
  have h1 : rec t y = .ok y := by
    cases x
    case null => exact absurd (pure_ok.mp h).symm hn
    all_goals exact hr.idem t _ _ h hc
  cases y
  case null => exact absurd rfl hn
  all_goals exact h1

theorem normFT_image_fixed {rec : Rec} (hr : RecGood rec) (ft : FT) {v r : Json} (h : normFT rec ft v = .ok r)
    (hc : Clean r) : normFT rec ft r = .ok r := by
  cases ft with
  | any => exact normAny_idem h
  | strs => exact strsVal_fixed h
  | ptrKind k | valKind k | ptrNamed n | named n => exact hr.idem _ _ _ h hc
  | struct n => cases h
  | str | bool => cases v <;> cases h <;> rfl
  | int | optInt =>
    cases v with
    | num n => cases normInt64_ok h; exact h
    | _ => cases h
  | float | optFloat =>
    cases v with
    | num n => cases (normFloat_ok h).1; exact h
    | _ => cases h
  -- on an array `anys` is `normAny`, and so is `anyMap` on an object
  | anys =>
    cases v with
    | arr xs => obtain ⟨ys, -, ⟨⟩⟩ := bind_ok.mp h; exact normAny_idem (j := .arr xs) h
    | _ => cases h
  | anyMap =>
    cases v with
    | obj ms => obtain ⟨ys, -, ⟨⟩⟩ := bind_ok.mp h; exact normAny_idem (j := .obj ms) h
    | _ => cases h
  | secReqs =>
    cases v with
    | arr xs =>
      obtain ⟨ys, hys, ⟨⟩⟩ := bind_ok.mp h
      exact bind_ok.mpr ⟨ys, mapR_second hys fun _ _ _ => secReqVal_fixed, rfl⟩
    | _ => cases h
  | listKind k =>
    cases v with
    | arr xs =>
      obtain ⟨ys, hys, ⟨⟩⟩ := bind_ok.mp h
      exact bind_ok.mpr ⟨ys, mapR_second hys fun y hy x hx => hr.idem _ x y hx (clean_arr hc y hy), rfl⟩
    | _ => cases h
  | strMap =>
    cases v with
    | obj ms =>
      obtain ⟨ys, hys, ⟨⟩⟩ := bind_ok.mp h
      exact bind_ok.mpr ⟨ys, mapMembersR_second hys fun _ _ _ => strElem_fixed, rfl⟩
    | _ => cases h
  | mapKind k | mapNamed k =>
    cases v with
    | obj ms =>
      obtain ⟨ys, hys, ⟨⟩⟩ := bind_ok.mp h
      exact bind_ok.mpr ⟨ys, mapMembersR_second hys fun m hm x hx => hr.idem _ x _ hx (cleanM_vals hc m hm).1, rfl⟩
    | _ => cases h
  | other g =>
    rw [normFT_other] at h ⊢
    split at h
    · next hg =>
      rw [if_pos hg]
      cases v with
      | obj ms =>
        obtain ⟨ys, hys, ⟨⟩⟩ := bind_ok.mp h
        have hv := cleanM_vals hc
        exact bind_ok.mpr ⟨ys, mapMembersR_second hys fun m hm _ hx => ptrTo_fixed hr _ hx (hv m hm).1 (hv m hm).2, rfl⟩
      | _ => cases h
    · cases h

theorem normFT_fixed {rec : Rec} (hr : RecGood rec) (ft : FT) (v r : Json) (h : normFT rec ft v = .ok r)
    (hc : Clean r) (hn : r ≠ .null) : normFT rec ft r = .ok r :=
  normFT_image_fixed hr ft h hc

/-! ### one field of a struct, second pass -/

theorem stImg_fixed {rec : Rec} (hr : RecGood rec) {ft : FT} {j : Json} (hs : StImg rec ft (some j))
    (hc : Clean j) : normFT rec ft j = .ok j := by
  obtain ⟨v, hv⟩ | ⟨k, rfl, hv⟩ := hs
  · exact normFT_image_fixed hr ft hv hc
  · exact hr.idem _ _ _ hv hc

theorem decodeAll_singleton {rec : Rec} {ft : FT} {j : Json} (hn : j ≠ .null) (h : normFT rec ft j = .ok j) :
    decodeAll rec ft none [j] = .ok (some j) := by
  cases j with
  | null => exact absurd rfl hn
  | _ => exact bind_ok.mpr ⟨_, bind_ok.mpr ⟨_, h, rfl⟩, rfl⟩

theorem zeroEnc_fixed {rec : Rec} {ft : FT} (h : zeroEnc ft ≠ .null) :
    normFT rec ft (zeroEnc ft) = .ok (zeroEnc ft) := by
  cases ft with
  | str | bool | int | float => rfl
  | _ => exact absurd rfl h

theorem field_second {rec : Rec} (hr : RecGood rec) (f : Field) (st : Option Json) (hs : StImg rec f.ft st)
    (hc : ∀ m, encodeField f st = some m → Clean m.2 ∧ m.2 ≠ .null) :
    ∃ st', decodeAll rec f.ft none ((encodeField f st).map (·.2)).toList = .ok st' ∧
      encodeField f st' = encodeField f st := by
  cases st with
  | none =>
    by_cases ho : f.omitEmpty = true
    · -- nothing is written, so nothing is read, and nothing is written again
      rw [show encodeField f none = none from if_pos ho]
      exact ⟨none, rfl, if_pos ho⟩
    · -- the zero value of a scalar is read back as itself
      have he : encodeField f none = some (f.jsonName, zeroEnc f.ft) := if_neg ho
      have h2 := (hc _ he).2
      rw [he]
      exact ⟨_, decodeAll_singleton h2 (zeroEnc_fixed h2), if_neg fun h => ho (Bool.and_eq_true_iff.mp h).1⟩
  | some j =>
    by_cases hz : (f.omitEmpty && isEmptyEnc f.ft j) = true
    · rw [show encodeField f (some j) = none from if_pos hz]
      exact ⟨none, rfl, if_pos (Bool.and_eq_true_iff.mp hz).1⟩
    · have he : encodeField f (some j) = some (f.jsonName, j) := if_neg hz
      have ⟨h1, h2⟩ := hc _ he
      rw [he]
      exact ⟨_, decodeAll_singleton h2 (stImg_fixed hr hs h1), he⟩

/-! ### the struct codec is a `filterMap` over the table -/

theorem filterMap_emit_filter {rec : Rec} {all : List Field} {ms : List (String × Json)} (q : String → Bool)
    (fs : List Field) : (fs.filter fun f => q f.jsonName).filterMap (emit rec all ms) =
      (fs.filterMap (emit rec all ms)).filter fun m => q m.1 := by
  rw [List.filterMap_filter, List.filter_filterMap]
  refine filterMap_congr fun f _ => ?_
  cases he : emit rec all ms f with
  | none => split <;> rfl
  | some m => rw [Option.filter_some, emit_key he]

theorem normFields_filter {rec : Rec} (all : List Field) (q : String → Bool) :
    ∀ (fs : List Field) (ms b : List (String × Json)), normFields rec all fs ms = .ok b →
      normFields rec all (fs.filter (fun f => q f.jsonName)) ms = .ok (b.filter (fun m => q m.1)) := by
  intro fs ms b h
  obtain ⟨hst, rfl⟩ := normFields_iff.mp h
  exact normFields_iff.mpr ⟨fun f hf => hst f (List.mem_filter.mp hf).1, (filterMap_emit_filter q fs).symm⟩

/-- fields left out of the table can be put back if their states decode -/
theorem normFields_unfilter {rec : Rec} {all fs : List Field} (q : String → Bool) {ms b' : List (String × Json)}
    (h : normFields rec all (fs.filter fun f => q f.jsonName) ms = .ok b')
    (hst : ∀ f ∈ fs, q f.jsonName = false → ∃ st, fieldState rec all f ms = .ok st) :
    ∃ b, normFields rec all fs ms = .ok b ∧ b.filter (fun m => q m.1) = b' := by
  obtain ⟨hst', rfl⟩ := normFields_iff.mp h
  refine ⟨_, normFields_iff.mpr ⟨fun f hf => ?_, rfl⟩, (filterMap_emit_filter q fs).symm⟩
  cases hq : q f.jsonName with
  | true => exact hst' f (List.mem_filter.mpr ⟨hf, hq⟩)
  | false => exact hst f hf hq

theorem setOmitEmpty_filter (n : String) (fs : List Field) :
    (setOmitEmpty n fs).filter (fun f => f.jsonName != n) = fs.filter (fun f => f.jsonName != n) := by
  induction fs with
  | nil => rfl
  | cons f rest ih =>
    rw [setOmitEmpty, List.map_cons, ← setOmitEmpty]
    by_cases h : (f.jsonName == n) = true
    · rw [if_pos h, List.filter_cons_of_neg (by simpa using h), List.filter_cons_of_neg (by simpa using h), ih]
    · rw [if_neg h, List.filter_cons, List.filter_cons, ih]

/-- `fieldState` does not look at `omitempty`: the table with the flag set succeeds exactly when the original does, and
the two results differ at most in the member `n` -/
theorem normFields_setOmit {rec : Rec} {all fs : List Field} (n : String) {ms lit : List (String × Json)}
    (h : normFields rec all (setOmitEmpty n fs) ms = .ok lit) :
    ∃ full, normFields rec all fs ms = .ok full ∧
      full.filter (fun m => m.1 != n) = lit.filter (fun m => m.1 != n) := by
  obtain ⟨hst, rfl⟩ := normFields_iff.mp h
  refine ⟨_, normFields_iff.mpr ⟨fun f hf => ?_, rfl⟩, ?_⟩
  · obtain ⟨st, hst⟩ := hst _ (List.mem_map_of_mem hf)
    exact ⟨st, by rw [← hst]; split <;> rfl⟩
  · rw [← filterMap_emit_filter (· != n), ← filterMap_emit_filter (· != n), setOmitEmpty_filter]

/-! ### who owns a member of the output -/

/-- Of the whole output `out`, the part `b` written under descriptor `d` is exactly what `d` claims: what the part reads
back is what it wrote. (`out` has no name twice and is `Clean`.) -/
structure Owns (out : List (String × Json)) (d : PartDesc) (b : List (String × Json)) : Prop where
  nodup : (keysOf out).Nodup
  clean : CleanM out
  sub : ∀ m ∈ b, m ∈ out
  own : ∀ m ∈ out, claims d m.1 → m ∈ b

theorem Owns.not_mem {out b : List (String × Json)} {d : PartDesc} {k : String} (o : Owns out d b)
    (hk : claims d k) (hb : k ∉ keysOf b) : k ∉ keysOf out := fun h =>
  let ⟨m, hm, e⟩ := List.mem_map.mp h
  hb (e ▸ mem_keysOf (o.own m hm (e ▸ hk)))

def OwnAll (out : List (String × Json)) : List PartDesc → List (List (String × Json)) → Prop
  | d :: ds, p :: ps => Owns out d p ∧ OwnAll out ds ps
  | [], [] => True
  | _, _ => False

/-- conforming parts with pairwise exclusive descriptors each own their share of an output that holds them and in which
whatever a descriptor claims belongs to one of them -/
theorem ownAll_of_confAll {out : List (String × Json)} (hout : (keysOf out).Nodup) (hclean : CleanM out)
    {ds : List PartDesc} {ps : List (List (String × Json))} (h : ConfAll ds ps) :
    partsOK ds = true → (∀ m ∈ ps.flatten, m ∈ out) →
      (∀ m ∈ out, (∃ d ∈ ds, claims d m.1) → m ∈ ps.flatten) → OwnAll out ds ps := by
  induction h with
  | nil => exact fun _ _ _ => trivial
  | @cons d ds p ps hc hrest ih =>
    intro hok hsub hcov
    simp only [List.flatten_cons, List.mem_append] at hsub hcov
    refine ⟨⟨hout, hclean, fun m hm => hsub m (.inl hm), fun m hm hcl => ?_⟩,
      ih (partsOK_tail hok) (fun m hm => hsub m (.inr hm)) fun m hm ⟨d', hd', hcl⟩ => ?_⟩
    · exact (hcov m hm ⟨d, List.mem_cons_self, hcl⟩).resolve_right fun h1 =>
        partsOK_exclusive hok hcl (confAll_claims hrest m h1)
    · exact (hcov m hm ⟨d', List.mem_cons_of_mem _ hd', hcl⟩).resolve_left fun h1 =>
        partsOK_exclusive hok (hc.claimed m h1) ⟨d', hd', hcl⟩

theorem ConfAll.ownAll {ds : List PartDesc} {bs : List (List (String × Json))} (h : ConfAll ds bs)
    (hk : partsOK ds = true) (hc : Clean (.obj bs.flatten)) : OwnAll bs.flatten ds bs :=
  ownAll_of_confAll (confAll_nodup h hk) hc h hk (fun _ hm => hm) fun _ hm _ => hm

/-! ### the struct codec, second pass -/

theorem fieldState_clean {rec : Rec} {all : List Field} (hkw : ∀ f ∈ all, f.jsonName ∈ keywordList) {f : Field}
    (hf : f.jsonName ∈ all.map (·.jsonName)) {out : List (String × Json)} (hout : (keysOf out).Nodup)
    (hclean : CleanM out) :
    fieldState rec all f out = decodeAll rec f.ft none (lookupKey out f.jsonName).toList := by
  rw [fieldState, fieldVals_eq hkw hf (cleanM_names hclean), filter_key_nodup _ hout]

theorem normFields_second {rec : Rec} (hr : RecGood rec) {all fs : List Field} {names : List String}
    {ms b out : List (String × Json)} (h : normFields rec all fs ms = .ok b) (o : Owns out ⟨names, false⟩ b)
    (hkw : ∀ f ∈ all, f.jsonName ∈ keywordList) (hall : ∀ n ∈ names, n ∈ all.map (·.jsonName))
    (hsub : (fs.map (·.jsonName)).Sublist names) (hn : names.Nodup) : normFields rec all fs out = .ok b := by
  obtain ⟨hst, rfl⟩ := normFields_iff.mp h
  -- field by field: `out` holds under the name of `f` what `f` emitted, and that is read back to a state that emits
  -- it again
  have key : ∀ f ∈ fs, ∃ st', fieldState rec all f out = .ok st' ∧ encodeField f st' = emit rec all ms f := by
    intro f hf
    obtain ⟨st, hst⟩ := hst f hf
    have he := emit_ok hst
    have hname := hsub.subset (List.mem_map_of_mem (f := (·.jsonName)) hf)
    have hmem : ∀ m, emit rec all ms f = some m → m ∈ fs.filterMap (emit rec all ms) :=
      fun m hm => List.mem_filterMap.mpr ⟨f, hf, hm⟩
    have hl : lookupKey out f.jsonName = (emit rec all ms f).map (·.2) := by
      cases hm : emit rec all ms f with
      | some m => exact emit_key hm ▸ lookupKey_of_mem o.nodup (o.sub m (hmem m hm))
      | none =>
        -- only `f` writes under its name
        refine lookupKey_none (o.not_mem (.inl hname) fun hk => ?_)
        obtain ⟨m, hm', e⟩ := List.mem_map.mp hk
        obtain ⟨f', hf', hm''⟩ := List.mem_filterMap.mp hm'
        cases nodup_map_inj (hn.sublist hsub) hf' hf ((emit_key hm'').symm.trans e)
        rw [hm] at hm''; cases hm''
    obtain ⟨st', h1, h2⟩ := field_second hr f st (fieldState_img all f ms st hst)
      fun m hm => cleanM_vals o.clean m (o.sub m (hmem m (he ▸ hm)))
    exact ⟨st', by rw [fieldState_clean hkw (hall _ hname) o.nodup o.clean, hl, he]; exact h1, he ▸ h2⟩
  exact normFields_iff.mpr ⟨fun f hf => let ⟨st', h', _⟩ := key f hf; ⟨st', h'⟩,
    filterMap_congr fun f hf => let ⟨_, h', e⟩ := key f hf; ((emit_ok h').trans e).symm⟩

/-! ### the generic map of the whole output -/

theorem normAny_total : ∀ (j : Json), Clean j → ∃ j', normAny j = .ok j' := by
  intro j
  induction j using Json.induction with
  | num n => exact fun h => ⟨.num n, by simp only [normAny, normFloat, if_pos (show n.natAbs ≤ floatExact from h)]⟩
  | arr xs ih =>
    intro h
    obtain ⟨ys, hys⟩ := mapR_total xs fun x hx => ih x hx (clean_arr h x hx)
    exact ⟨.arr ys, by simp only [normAny, normAnyList_eq_map, hys, ok_bind]; rfl⟩
  | obj ms ih =>
    intro h
    obtain ⟨ys, hys⟩ := mapMembersR_total ms fun m hm => ih m hm (cleanM_vals h m hm).1
    exact ⟨.obj ys, by simp only [normAny, normAnyMembers_eq_map, hys, ok_bind]; rfl⟩
  | _ => exact fun _ => ⟨_, rfl⟩

theorem normAnyList_total : ∀ (xs : List Json), CleanL xs → ∃ ys, normAnyList xs = .ok ys :=
  fun xs h => normAnyList_eq_map xs ▸ mapR_total xs fun x hx => normAny_total x (cleanL_iff.mp h x hx)

theorem normAnyMembers_total (ms : List (String × Json)) (h : CleanM ms) : ∃ ys, normAnyMembers ms = .ok ys :=
  normAnyMembers_eq_map ms ▸ mapMembersR_total ms fun m hm => normAny_total m.2 (cleanM_vals h m hm).1

theorem genericFilter_second {out d b : List (String × Json)} (q : String → Bool) (hout : (keysOf out).Nodup)
    (hd : normAnyMembers out = .ok d) (hbs : KeysSorted b) (hbg : GoAnyM b) (hbsub : ∀ m ∈ b, m ∈ out)
    (hbq : ∀ m ∈ b, q m.1 = true) (hown : ∀ m ∈ out, q m.1 = true → m ∈ b) :
    d.filter (fun m => q m.1) = b := by
  have ⟨c1, _, c3⟩ := mapMembersR_char out d hout (normAnyMembers_eq_map out ▸ hd)
  have fixed : ∀ m ∈ b, normAny m.2 = .ok m.2 := fun m hm => normAny_of_goAny m.2 (goAnyM_iff.mp hbg m hm)
  refine sorted_ext (keysSorted_filter _ c1) hbs fun m => ?_
  rw [List.mem_filter, c3 m]
  constructor
  · rintro ⟨⟨x, hx, h1, h2⟩, hq⟩
    have hxb := hown x hx (h1 ▸ hq)
    cases Prod.ext (x := x) (y := m) h1 (Except.ok.inj ((fixed x hxb).symm.trans h2))
    exact hxb
  · exact fun hm => ⟨⟨m, hbsub m hm, rfl, fixed m hm⟩, hbq m hm⟩

/-- a part that is a filter of a Go map `d₀` is what the same filter finds in the generic map of the whole output -/
theorem filterPart_second {out d d₀ : List (String × Json)} (q : String → Bool) (h₀ : KeysSorted d₀ ∧ GoAnyM d₀)
    (hout : (keysOf out).Nodup) (hd : normAnyMembers out = .ok d)
    (hsub : ∀ m ∈ d₀.filter (fun m => q m.1), m ∈ out)
    (hown : ∀ m ∈ out, q m.1 = true → m ∈ d₀.filter (fun m => q m.1)) :
    d.filter (fun m => q m.1) = d₀.filter (fun m => q m.1) :=
  genericFilter_second q hout hd (keysSorted_filter _ h₀.1) (goAnyM_filter _ h₀.2) hsub
    (fun _ hm => (List.mem_filter.mp hm).2) hown

theorem normExtensions_second {j : Json} {b out : List (String × Json)} (h : normExtensions j = .ok b)
    (o : Owns out ⟨[], true⟩ b) : normExtensions (.obj out) = .ok b := by
  simp only [normExtensions, bind_ok, pure_ok] at h
  obtain ⟨d₀, hd₀, rfl⟩ := h
  obtain ⟨d, hd⟩ := normAnyMembers_total out o.clean
  simp only [normExtensions, genericMap, hd, ok_bind,
    filterPart_second isExtKey (genericMap_goAny hd₀) o.nodup hd o.sub fun m hm hx => o.own m hm (.inr ⟨rfl, hx⟩)]
  rfl

/-- the generic map of the output holds, under the name of a one-string part, what the part holds -/
theorem Owns.lookup_generic {out b d : List (String × Json)} {n : String} (o : Owns out ⟨[n], false⟩ b)
    (hd : normAnyMembers out = .ok d) (hb : b = [] ∨ ∃ t, b = [(n, .str t)]) : lookupKey d n = lookupKey b n := by
  have ⟨c1, c2, c3⟩ := mapMembersR_char out d o.nodup (normAnyMembers_eq_map out ▸ hd)
  rcases hb with rfl | ⟨t, rfl⟩
  · exact lookupKey_none fun hk => o.not_mem (.inl List.mem_cons_self) List.not_mem_nil (c2 n hk)
  · rw [lookupKey_cons, if_pos rfl]
    exact lookupKey_of_mem (keysSorted_nodup c1) ((c3 (n, .str t)).mpr ⟨_, o.sub _ List.mem_cons_self, rfl, rfl⟩)

/-- the text `Ref.MarshalJSON` prints is one the URL printing model leaves alone (`urlString_idem`), so `Clean` need
not ask it of the output -/
theorem refOfMap_shape_fixed {strict : Bool} {d out : List (String × Json)} (h : refOfMap strict d = .ok out) :
    out = [] ∨ ∃ t, out = [("$ref", .str t)] ∧ urlString t = .ok t := by
  unfold refOfMap at h
  split at h
  · split at h
    · next hus => exact .inr ⟨_, (pure_ok.mp h).symm, urlString_idem hus⟩
    · split at h
      · cases goError_ok.mp h
      · exact .inl (pure_ok.mp h).symm
    · cases outOfModel_ok.mp h
  · exact .inl (pure_ok.mp h).symm

theorem refOfMap_second {strict : Bool} {d₀ b out d : List (String × Json)} (h : refOfMap strict d₀ = .ok b)
    (o : Owns out ⟨["$ref"], false⟩ b) (hd : normAnyMembers out = .ok d) : refOfMap strict d = .ok b := by
  have hs := refOfMap_shape_fixed h
  have hl := o.lookup_generic hd (hs.imp_right fun ⟨t, e, _⟩ => ⟨t, e⟩)
  rcases hs with rfl | ⟨t, rfl, hu⟩
  · simp only [refOfMap, hl]; rfl
  · simp only [refOfMap, hl, lookupKey_cons, if_pos, hu]; rfl

theorem normRefable_second {j : Json} {b out : List (String × Json)} (h : normRefable j = .ok b)
    (o : Owns out ⟨["$ref"], false⟩ b) : normRefable (.obj out) = .ok b := by
  simp only [normRefable, bind_ok] at h
  obtain ⟨d₀, _, h⟩ := h
  obtain ⟨d, hd⟩ := normAnyMembers_total out o.clean
  simp only [normRefable, genericMap, hd, ok_bind, refOfMap_second h o hd]

/-! ### the parts of a regular kind, second pass -/

theorem normStruct_second {rec : Rec} (hr : RecGood rec) (hT : tablesNodup Gen.structs = true) (n : String)
    {j : Json} {b out : List (String × Json)} (h : normStruct rec (lookupStruct Gen.structs n) j = .ok b)
    (o : Owns out ⟨tableNames (lookupStruct Gen.structs n), false⟩ b) :
    normStruct rec (lookupStruct Gen.structs n) (.obj out) = .ok b := by
  simp only [normStruct, bind_ok] at h ⊢
  obtain ⟨ms, _, h⟩ := h
  exact ⟨out, rfl, normFields_second hr h o (lookupStruct_keywords n) (fun _ h => h) (.refl _)
    (lookupStruct_nodup hT n)⟩

theorem normOperationProps_second {rec : Rec} (hr : RecGood rec) (hT : tablesNodup Gen.structs = true)
    {j : Json} {b out : List (String × Json)} (h : normOperationProps rec j = .ok b)
    (o : Owns out ⟨tableNames (lookupStruct Gen.structs "OperationProps"), false⟩ b) :
    normOperationProps rec (.obj out) = .ok b := by
  have hn := lookupStruct_nodup hT "OperationProps"
  have hkw : ∀ f ∈ tableOf "OperationProps", f.jsonName ∈ keywordList := lookupStruct_keywords _
  rw [← tableOf_names] at hn o
  unfold normOperationProps at h ⊢
  generalize tableOf "OperationProps" = props at h hn hkw o ⊢
  -- `h` is taken apart by hand: `simp` across the join point of this `do` block is slow for the kernel
  obtain ⟨ms, -, h⟩ := bind_ok.mp h
  obtain ⟨others, hothers, h⟩ := bind_ok.mp h
  have hno : "security" ∉ keysOf others := fun hk => by
    obtain ⟨g, hg, e⟩ := List.mem_map.mp ((normFields_nd hr.nd _ _ _ _ hothers).1.subset hk)
    simp [e] at hg
  -- the fields other than `security` own what is not called `security`
  have second : ∀ sec, (∀ m ∈ sec, m.1 = "security") → b = sec ++ others →
      normFields rec props (props.filter (·.jsonName != "security")) out = .ok others := by
    rintro sec hsk rfl
    refine normFields_second hr hothers
      ⟨o.nodup, o.clean, fun m hm => o.sub m (List.mem_append_right _ hm), fun m hm hc => ?_⟩
      hkw (fun _ h => (List.filter_sublist.map _).subset h) (.refl _) (hn.sublist (List.filter_sublist.map _))
    obtain ⟨g, hg, e⟩ := List.mem_map.mp (hc.resolve_right nofun)
    have ⟨hg1, hg2⟩ := List.mem_filter.mp hg
    refine (List.mem_append.mp (o.own m hm (.inl (e ▸ List.mem_map_of_mem hg1)))).resolve_left fun hs => ?_
    simp [e, hsk m hs] at hg2
  refine bind_ok.mpr ⟨out, rfl, ?_⟩
  generalize hf : props.find? _ = fo at h ⊢
  cases fo <;> simp only [bind_ok, pure_ok] at h
  · obtain ⟨_, rfl, rfl⟩ := h
    exact bind_ok.mpr ⟨others, second [] nofun rfl, by rw [hf]; rfl⟩
  · next f =>
    obtain ⟨st, hst, _, rfl, rfl⟩ := h
    have hname : f.jsonName = "security" := by simpa using List.find?_some hf
    have hfm := List.mem_map_of_mem (f := (·.jsonName)) (List.mem_of_find?_eq_some hf)
    refine bind_ok.mpr ⟨others, second _ (by cases st <;> simp) rfl, ?_⟩
    rw [hf]
    refine bind_ok.mpr ⟨st, ?_, rfl⟩
    -- `security` holds the state itself, which is read back as itself
    rw [fieldState_clean hkw hfm o.nodup o.clean, hname]
    cases st with
    | none => rw [lookupKey_none (o.not_mem (.inl (hname ▸ hfm)) hno)]; rfl
    | some v =>
      have hm : ("security", v) ∈ out := o.sub _ List.mem_cons_self
      have ⟨hcv, hnv⟩ := cleanM_vals o.clean _ hm
      rw [lookupKey_of_mem o.nodup hm]
      exact decodeAll_singleton hnv (stImg_fixed hr (fieldState_img _ f ms _ hst) hcv)

theorem normPart_second {rec : Rec} (hr : RecGood rec) (hT : tablesNodup Gen.structs = true) (p : String)
    {j : Json} {b out : List (String × Json)} (h : normPart rec p j = .ok b) (o : Owns out (descOf p) b) :
    normPart rec p (.obj out) = .ok b := by
  revert h
  refine normPart_cases (P := fun a a' => a = .ok b → a' = .ok b) (rec' := rec) (j' := .obj out) p
    (fun e => ?_) (fun e => ?_) (fun e => ?_) (fun h1 h2 => ?_) <;> intro h
  · rw [e, descOf_extensions] at o; exact normExtensions_second h o
  · rw [e, descOf_refable] at o; exact normRefable_second h o
  · subst e; rw [descOf_struct (by simp) (by simp)] at o; exact normOperationProps_second hr hT h o
  · rw [descOf_struct h1 h2] at o
    exact normStruct_second hr hT p h o

theorem normParts_second {rec : Rec} (hr : RecGood rec) (hT : tablesNodup Gen.structs = true) {j : Json}
    {out : List (String × Json)} (ps : List String) : ∀ {bs : List (List (String × Json))},
      normParts rec j ps = .ok bs → OwnAll out (ps.map descOf) bs → normParts rec (.obj out) ps = .ok bs := by
  induction ps with
  | nil => exact fun h _ => h
  | cons p ps ih =>
    intro bs h o
    simp only [normParts, bind_ok, pure_ok] at h ⊢
    obtain ⟨b, hb, bs', hbs', rfl⟩ := h
    exact ⟨b, normPart_second hr hT p hb o.1, bs', ih hbs' o.2, rfl⟩

/-! ### the regular kinds -/

/-- parts of a regular kind that are decoded but never encoded (the tables have none) -/
def deadTargets (ki : KindInfo) : List String := ki.unmarshalTargets.filter fun p => !ki.marshalParts.contains p

theorem normConcatKind_second {rec : Rec} (hr : RecGood rec) (hT : tablesNodup Gen.structs = true) (ki : KindInfo)
    (hk : partsOK ((liveParts ki).map descOf) = true) (hdead : deadTargets ki = [])
    {j r : Json} (h : normConcatKind rec ki j = .ok r) (hc : Clean r) : normConcatKind rec ki r = .ok r := by
  simp only [normConcatKind, bind_ok, pure_ok, concatMembers_eq] at h ⊢
  obtain ⟨_, _, bs, hbs, zs, hzs, rfl⟩ := h
  have own := (normParts_conf hr.nd hT j _ bs hbs).ownAll hk hc
  exact ⟨[], by rw [show List.filter _ _ = [] from hdead]; rfl, bs, normParts_second hr hT _ hbs own, zs, hzs, rfl⟩

/-! ### Schema -/

theorem schemaURLOfMap_shape_fixed {d out : List (String × Json)} (h : schemaURLOfMap d = .ok out) :
    out = [] ∨ ∃ t, t ≠ "" ∧ out = [("$schema", .str t)] ∧ urlString t = .ok t := by
  unfold schemaURLOfMap at h
  split at h
  · split at h
    · next hus =>
      cases pure_ok.mp h
      split
      · exact .inl rfl
      · next hne => exact .inr ⟨_, by simpa using hne, rfl, urlString_idem hus⟩
    · exact .inl (pure_ok.mp h).symm
    · cases outOfModel_ok.mp h
  · exact .inl (pure_ok.mp h).symm

theorem schemaURLOfMap_second {d₀ b out d : List (String × Json)} (h : schemaURLOfMap d₀ = .ok b)
    (o : Owns out ⟨["$schema"], false⟩ b) (hd : normAnyMembers out = .ok d) : schemaURLOfMap d = .ok b := by
  have hs := schemaURLOfMap_shape_fixed h
  have hl := o.lookup_generic hd (hs.imp_right fun ⟨t, _, e, _⟩ => ⟨t, e⟩)
  rcases hs with rfl | ⟨t, hne, rfl, hu⟩
  · simp only [schemaURLOfMap, hl]; rfl
  · simp only [schemaURLOfMap, hl, lookupKey_cons, if_pos, hu, beq_iff_eq, if_neg hne]; rfl

theorem normFields_nil {rec : Rec} {all fs : List Field} (h : ∀ f ∈ fs, f.omitEmpty = true) :
    normFields rec all fs [] = .ok [] :=
  normFields_iff.mpr ⟨fun _ _ => ⟨none, rfl⟩,
    (List.filterMap_eq_nil_iff.mpr fun f hf => (emit_ok (st := none) rfl).trans (if_pos (h f hf))).symm⟩

/-- side condition on the GENERATED tables: an empty schema prints as `{}` (every field is `omitempty`) -/
def schemaAllOmit : Bool :=
  (tableOf "SchemaProps").all (·.omitEmpty) && (tableOf "SwaggerSchemaProps").all (·.omitEmpty)

theorem normSchema_second {rec : Rec} (hr : RecGood rec) (hT : tablesNodup Gen.structs = true)
    (hk : partsOK schemaDescs = true) (hom : schemaAllOmit = true) {j r : Json} (h : normSchema rec j = .ok r)
    (hc : Clean r) : normSchema rec r = .ok r := by
  have hnd := normSchema_nd hr.nd hT hk h
  cases j with
  | null =>
    cases pure_ok.mp h
    simp only [schemaAllOmit, Bool.and_eq_true, List.all_eq_true] at hom
    simp only [normSchema, normFields_nil hom.1, normFields_nil hom.2, ok_bind]
    rfl
  | obj ms =>
    simp only [normSchema, pure_ok, bind_ok, concatMembers_eq, List.filter_filter, ← schemaExtra.eq_1] at h
    obtain ⟨b1, hb1, b5, hb5, d₀, hd₀, b3, hb3, b4, hb4, rfl⟩ := h
    have g₀ := normAnyMembers_goAny hd₀
    have call := normSchema_parts hr.nd hT hb1 hb5 (genericMap_nd (j := .obj ms) hd₀) hb3 hb4
    -- the extra properties are claimed by no part
    have hun : ∀ m : String × Json, (!isExtKey m.1 && schemaExtra m.1) = true →
        ¬ ∃ d ∈ schemaDescs, claims d m.1 := fun m hq =>
      have ⟨h1, h2⟩ := Bool.and_eq_true_iff.mp hq
      schemaDescs_unclaimed h2 (by simpa using h1)
    have hun6 : ∀ m ∈ d₀.filter (fun m => !isExtKey m.1 && schemaExtra m.1), ¬ ∃ d ∈ schemaDescs, claims d m.1 :=
      fun m hm => hun m (List.mem_filter.mp hm).2
    obtain ⟨d, hd⟩ := normAnyMembers_total _ hc
    have s2 := filterPart_second (fun k => isExtKey k && schemaExtra k) g₀ hnd.1 hd
    have s6 := filterPart_second (fun k => !isExtKey k && schemaExtra k) g₀ hnd.1 hd
    generalize d₀.filter (fun m => isExtKey m.1 && schemaExtra m.1) = b2 at *
    generalize d₀.filter (fun m => !isExtKey m.1 && schemaExtra m.1) = b6 at *
    have mem : ∀ {m}, m ∈ [b1, b2, b3, b4, b5, b6].flatten ↔ m ∈ [b1, b2, b3, b4, b5].flatten ∨ m ∈ b6 := by
      simp [or_assoc]
    obtain ⟨o1, o2, o3, o4, o5, -⟩ := ownAll_of_confAll hnd.1 hc call hk (fun m hm => mem.mpr (.inl hm))
      fun m hm hcl => (mem.mp hm).resolve_right fun h6 => hun6 m h6 hcl
    simp only [normSchema, pure_ok, bind_ok, concatMembers_eq, List.filter_filter, ← schemaExtra.eq_1]
    refine ⟨b1, normFields_second hr hb1 o1 schemaTables_keywords
        (fun _ h => ((List.sublist_append_left ..).map _).subset h) (.refl _) (lookupStruct_nodup hT _),
      b5, normFields_second hr hb5 o5 schemaTables_keywords
        (fun _ h => ((List.sublist_append_right ..).map _).subset h) (.refl _) (lookupStruct_nodup hT _),
      d, hd, b3, refOfMap_second hb3 o3 hd, b4, schemaURLOfMap_second hb4 o4 hd, ?_⟩
    -- both filters of the generic map find what they found before
    rw [s2 o2.sub fun m hm hq => o2.own m hm (.inr ⟨rfl, (Bool.and_eq_true_iff.mp hq).1⟩),
      s6 (fun m hm => mem.mpr (.inr hm))
        fun m hm hq => (mem.mp hm).resolve_left fun hm' => hun m hq (confAll_claims call m hm')]
  | _ => cases h

/-! ### SecurityScheme -/

theorem normSecurityScheme_second {rec : Rec} (hr : RecGood rec) (hT : tablesNodup Gen.structs = true)
    (hk : partsOK securitySchemeDescs = true) {j r : Json} (h : normSecurityScheme rec j = .ok r) (hc : Clean r) :
    normSecurityScheme rec r = .ok r := by
  have hn := lookupStruct_nodup hT "SecuritySchemeProps"
  have hkw : ∀ f ∈ tableOf "SecuritySchemeProps", f.jsonName ∈ keywordList := lookupStruct_keywords _
  simp only [normSecurityScheme, bind_ok, pure_ok, ite_ok, concatMembers_eq] at h ⊢
  obtain ⟨ms, -, full, hfull, b2, hb2, h⟩ := h
  have c2 := ConfAll.cons (normExtensions_conf hb2) .nil
  obtain ⟨hflow, rfl⟩ | ⟨hflow, lit, hlit, rfl⟩ := h
  · -- oauth2 with a flow that needs the authorization URL: the full table
    obtain ⟨o1, o2, -⟩ := (ConfAll.cons (normFields_conf hr.nd (.refl _) hn hfull) c2).ownAll hk hc
    exact ⟨_, rfl, full, normFields_second hr hfull o1 hkw (fun _ h => h) (.refl _) hn, b2,
      normExtensions_second hb2 o2, .inl ⟨hflow, rfl⟩⟩
  · obtain ⟨o1, o2, -⟩ := (ConfAll.cons (normFields_conf hr.nd (setOmitEmpty_sublist ..) hn hlit) c2).ownAll hk hc
    have h1 := normFields_second hr hlit o1 hkw (fun _ h => h) (setOmitEmpty_sublist ..) hn
    -- the full table succeeds on the output too, and sees the same `type` and `flow` as on the input
    obtain ⟨full₁, hf₁, e₁⟩ := normFields_setOmit _ hlit
    obtain ⟨full₂, hf₂, e₂⟩ := normFields_setOmit _ h1
    cases hfull.symm.trans hf₁
    have e : ∀ k, k ≠ "authorizationUrl" → lookupKey full₂ k = lookupKey full k := fun k hk => by
      rw [← lookupKey_filter_ne hk, e₂, ← e₁, lookupKey_filter_ne hk]
    rw [← e "type" (by simp), ← e "flow" (by simp)] at hflow
    exact ⟨_, rfl, full₂, hf₂, b2, normExtensions_second hb2 o2, .inr ⟨hflow, lit, h1, rfl⟩⟩

/-! ### Response -/

theorem normResponse_second {rec : Rec} (hr : RecGood rec) (hT : tablesNodup Gen.structs = true)
    (hk : partsOK responseDescs = true) {j r : Json} (h : normResponse rec j = .ok r) (hc : Clean r) :
    normResponse rec r = .ok r := by
  have hn := lookupStruct_nodup hT "ResponseProps"
  have hkw : ∀ f ∈ tableOf "ResponseProps", f.jsonName ∈ keywordList := lookupStruct_keywords _
  simp only [normResponse_unfold, bind_ok, pure_ok, ite_ok, concatMembers_eq] at h ⊢
  obtain ⟨ms, -, full, hfull, b2, hb2, b3, hb3, h⟩ := h
  have tail := ConfAll.cons (normRefable_conf hb2) (.cons (normExtensions_conf hb3) .nil)
  obtain ⟨hhr, lit, hlit, rfl⟩ | ⟨hhr, rfl⟩ := h
  · -- a reference: what is written is the table with `description` omitempty and without `headers`
    have hlitF := normFields_filter _ (· != "headers") _ _ _ hlit
    have hsub : ((List.filter (fun f => f.jsonName != "headers") (setOmitEmpty "description"
        (tableOf "ResponseProps"))).map (·.jsonName)).Sublist (tableNames (lookupStruct Gen.structs "ResponseProps")) :=
      (List.filter_sublist.map _).trans (setOmitEmpty_sublist ..)
    obtain ⟨o1, o2, o3, -⟩ := (ConfAll.cons (normFields_conf hr.nd hsub hn hlitF) tail).ownAll hk hc
    have h1 := normFields_second hr hlitF o1 hkw (fun _ h => h) hsub hn
    -- `headers` is not in the output, so its field reads nothing; then the unfiltered and the full table succeed too
    obtain ⟨lit', hlit', e⟩ := normFields_unfilter (· != "headers") h1 fun f hf hq => ⟨none, by
      have hfn := List.mem_map_of_mem (f := (·.jsonName)) hf
      have hnot : f.jsonName ∉ keysOf (lit.filter fun m => m.1 != "headers") := fun hk => by
        obtain ⟨m, hm, e⟩ := List.mem_map.mp hk
        rw [← e, (List.mem_filter.mp hm).2] at hq
        cases hq
      rw [fieldState_clean hkw (setOmitEmpty_names .. ▸ hfn) o1.nodup o1.clean,
        lookupKey_none (o1.not_mem (.inl ((setOmitEmpty_sublist ..).subset hfn)) hnot)]
      rfl⟩
    obtain ⟨full', hfull', -⟩ := normFields_setOmit _ hlit'
    exact ⟨_, rfl, full', hfull', b2, normRefable_second hb2 o2, b3, normExtensions_second hb3 o3,
      .inl ⟨hhr, lit', hlit', by rw [e]⟩⟩
  · obtain ⟨o1, o2, o3, -⟩ := (ConfAll.cons (normFields_conf hr.nd (.refl _) hn hfull) tail).ownAll hk hc
    exact ⟨_, rfl, full, normFields_second hr hfull o1 hkw (fun _ h => h) (.refl _) hn, b2,
      normRefable_second hb2 o2, b3, normExtensions_second hb3 o3, .inr ⟨hhr, rfl⟩⟩

/-! ### the named union types -/

theorem normStringOrArray_second {v r : Json} (h : normStringOrArray v = .ok r) : normStringOrArray r = .ok r := by
  cases v <;> simp only [normStringOrArray, bind_ok, pure_ok, goError_ok] at h
  · subst h; rfl
  · subst h; rfl
  · obtain ⟨ys, hys, h⟩ := h
    split at h <;> cases pure_ok.mp h
    · obtain ⟨x, _, hx⟩ := mapR_mem hys _ List.mem_cons_self
      obtain ⟨s, rfl⟩ := strElem_isStr hx
      rfl
    · next hne =>
      simp only [normStringOrArray, mapR_second hys fun _ _ _ => strElem_fixed, ok_bind]
      rfl

theorem normNamed_second {rec : Rec} (hr : RecGood rec) (n : String) {v r : Json} (h : normNamed rec n v = .ok r)
    (hc : Clean r) : normNamed rec n r = .ok r := by
  -- a schema comes back as an object, and is read as a schema again
  have schema : ∀ {f : Json → R Json}, (∀ ms, f (.obj ms) = rec (.kind "schema") (.obj ms)) →
      rec (.kind "schema") v = .ok r → f r = .ok r := fun hf h => by
    obtain ⟨ms, rfl⟩ := hr.isObj _ _ _ h
    exact (hf ms).trans (hr.idem _ _ _ h hc)
  revert h
  refine normNamed_cases (P := fun a a' => a = .ok r → a' = .ok r) (rec' := rec) (j' := r) n ?_ ?_ ?_ ?_ ?_ nofun
    <;> intro h
  · exact normStringOrArray_second h
  · cases v with
    | obj ms => exact schema (fun _ => rfl) h
    | bool b => cases b <;> cases h <;> rfl
    | _ => cases h; rfl
  · cases v with
    | obj ms => exact schema (fun _ => rfl) h
    | arr xs =>
      obtain ⟨ys, hys, ⟨⟩⟩ := bind_ok.mp h
      exact bind_ok.mpr ⟨ys, mapR_second hys fun y hy x hx => hr.idem _ x y hx (clean_arr hc y hy), rfl⟩
    | _ => cases h; rfl
  · cases v with
    | obj ms => exact schema (fun _ => rfl) h
    | arr xs =>
      obtain ⟨ys, hys, ⟨⟩⟩ := bind_ok.mp h
      split
      · rfl
      · next hne =>
        exact bind_ok.mpr ⟨ys, mapR_second hys fun _ _ _ => strElem_fixed, congrArg _ (if_neg hne)⟩
    | _ => cases h; rfl
  · cases v with
    | null => cases h; rfl
    | obj ms =>
      -- the sorted Go map was reordered by `x-order`; read back, it is the same Go map, reordered alike
      obtain ⟨ys, hys, ⟨⟩⟩ := bind_ok.mp h
      have ⟨hs, hm⟩ := mapMembersR_mem hys
      have hp := sortBy_perm lessItem ys
      have hfix : ∀ m ∈ sortBy lessItem ys, rec (.kind "schema") m.2 = .ok m.2 := fun m hm' =>
        let ⟨x, _, _, hx⟩ := hm m (hp.mem_iff.mp hm'); hr.idem _ _ _ hx (cleanM_vals hc m hm').1
      have e : toGoMap (sortBy lessItem ys) = ys :=
        toGoMap_eq_of_sorted_mem (perm_nodup_keys hp (keysSorted_nodup hs)) hs fun _ => hp.mem_iff
      exact bind_ok.mpr ⟨_, mapMembersR_of_fixed _ hfix, by rw [e]; rfl⟩
    | _ => cases h

/-! ### Responses -/

/-- keys `Responses.UnmarshalJSON` does not read as status codes -/
def skipKey (k : String) : Bool := k == "default" || hasXPrefix k

theorem hasXPrefix_default : hasXPrefix "default" = false := by decide

/-- reading back a list whose status-code members are decimal numerals holding fixed points -/
theorem statusEntries_char {rec : Rec} : ∀ (zs : List (String × Json)),
    (∀ m ∈ zs, skipKey m.1 = false → rec (.kind "response") m.2 = .ok m.2 ∧ ∃ n, m.1 = itoa n ∧ int64Range n) →
    ∃ cs, statusEntries rec zs = .ok cs ∧
      cs.map (fun e => (itoa e.1, e.2)) = zs.filter (fun m => !skipKey m.1) := by
  intro zs
  induction zs with
  | nil => exact fun _ => ⟨[], rfl, rfl⟩
  | cons a rest ih =>
    obtain ⟨k, v⟩ := a
    intro h
    obtain ⟨cs, h1, h2⟩ := ih fun m hm => h m (List.mem_cons_of_mem _ hm)
    unfold statusEntries
    cases hs : skipKey k with
    | true => exact ⟨cs, (if_pos hs).trans h1, by rw [List.filter_cons_of_neg (by simp [hs])]; exact h2⟩
    | false =>
      obtain ⟨hv, n, rfl, hr⟩ := h _ List.mem_cons_self hs
      refine ⟨(n, v) :: cs, (if_neg (ne_true_of_eq_false hs)).trans ?_,
        by rw [List.filter_cons_of_pos (by simp [hs]), List.map_cons, h2]⟩
      simp only [hv, h1, ok_bind, atoi_itoa n hr]
      rfl

theorem hasDupCodes_false (cs : List (Int × Json)) : (keysOf (cs.map fun e => (itoa e.1, e.2))).Nodup →
    hasDupCodes cs = false := by
  induction cs with
  | nil => exact fun _ => rfl
  | cons c rest ih =>
    intro h
    have ⟨h1, h2⟩ := nodup_keysOf_cons.mp h
    rw [hasDupCodes, ih h2, Bool.or_false, List.any_eq_false]
    exact fun e he heq => h1 (List.mem_map.mpr ⟨_, List.mem_map_of_mem he, congrArg itoa (beq_iff_eq.mp heq)⟩)

theorem normResponsesProps_fixed {rec : Rec} {raw : List (String × Json)} (hs : KeysSorted raw)
    (h : ∀ m ∈ raw, hasXPrefix m.1 = false →
      rec (.kind "response") m.2 = .ok m.2 ∧ (m.1 = "default" ∨ ∃ n, m.1 = itoa n ∧ int64Range n)) :
    normResponsesProps rec (.obj raw) = .ok (raw.filter fun m => !hasXPrefix m.1) := by
  have hnd := keysSorted_nodup hs
  have hdflt : defaultPart rec raw = .ok (raw.filter (·.1 == "default")) := by
    rw [filter_key_eq "default" hnd, defaultPart]
    cases hl : lookupKey raw "default" with
    | none => rfl
    | some v =>
      have hv : rec (.kind "response") v = .ok v := (h _ (lookupKey_mem hl) hasXPrefix_default).1
      simp only [hv, ok_bind]; rfl
  obtain ⟨cs, hcs, hcsm⟩ := statusEntries_char (rec := rec) raw fun m hm hs => by
    have ⟨h1, h2⟩ : m.1 ≠ "default" ∧ hasXPrefix m.1 = false := by simpa [skipKey] using hs
    exact (h m hm h2).imp_right fun hk => hk.resolve_left h1
  have hdup := hasDupCodes_false cs (hcsm ▸ keysOf_filter_nodup _ hnd)
  -- the Go map built from `default` and the status codes
  have hres : toGoMap (raw.filter (·.1 == "default") ++ raw.filter (fun m => !skipKey m.1)) =
      raw.filter fun m => !hasXPrefix m.1 := by
    refine toGoMap_eq_of_sorted_mem (nodup_keysOf_append (keysOf_filter_nodup _ hnd) (keysOf_filter_nodup _ hnd)
      fun m hm m' hm' e => ?_) (keysSorted_filter _ hs) fun m => ?_
    · have := (List.mem_filter.mp hm').2
      rw [← e, beq_iff_eq.mp (List.mem_filter.mp hm).2] at this
      cases this
    · simp only [List.mem_append, List.mem_filter, skipKey]
      by_cases e : m.1 = "default"
      · simp [e, hasXPrefix_default]
      · simp [e]
  simp only [normResponsesProps, rawMap, toGoMap_of_sorted hs, hdflt, hcs, ok_bind, hdup, hcsm, hres]
  rfl

theorem normResponsesProps_second {rec : Rec} (hr : RecGood rec) {b1 b2 : List (String × Json)}
    (hs : KeysSorted b1) (himg : ∀ m ∈ b1, RespMember rec m) (hnd : (keysOf (b1 ++ b2)).Nodup)
    (hclean : CleanM (b1 ++ b2)) (hb2 : ∀ m ∈ b2, isExtKey m.1 = true) :
    normResponsesProps rec (.obj (b1 ++ b2)) = .ok b1 := by
  -- extensions are told from the rest by the prefix `x-`, which a clean name spells in lower case
  have hx1 : ∀ m ∈ b1, hasXPrefix m.1 = false := fun m hm =>
    Bool.eq_false_iff.mpr fun hx => by have := (himg m hm).not_ext; rw [hasXPrefix_isExtKey hx] at this; cases this
  have hx2 : ∀ m ∈ b2, hasXPrefix m.1 = true := fun m hm =>
    (cleanM_names hclean m (List.mem_append_right _ hm)).2 (hb2 m hm)
  have hfix := normResponsesProps_fixed (rec := rec) (toGoMap_sorted (b1 ++ b2)) fun m hm hx => by
    rcases List.mem_append.mp (toGoMap_members _ m hm) with h1 | h2
    · have ⟨⟨v, hv⟩, hk⟩ := himg m h1
      exact ⟨hr.idem _ _ _ hv (cleanM_vals hclean m (List.mem_append_left _ h1)).1, hk⟩
    · rw [hx2 m h2] at hx; cases hx
  have hkeep : (toGoMap (b1 ++ b2)).filter (fun m => !hasXPrefix m.1) = b1 :=
    toGoMap_filter_eq _ hnd hs fun m => by
      rw [List.mem_append]
      exact ⟨fun h => ⟨.inl h, by rw [hx1 m h]; rfl⟩,
        fun ⟨h, hq⟩ => h.resolve_right fun h' => by rw [hx2 m h'] at hq; cases hq⟩
  -- only the Go map of the members is looked at
  have hraw : normResponsesProps rec (.obj (b1 ++ b2)) = normResponsesProps rec (.obj (toGoMap (b1 ++ b2))) := by
    simp only [normResponsesProps, rawMap, toGoMap_idem]
  rw [hraw, hfix, hkeep]

theorem normResponses_second {rec : Rec} (hr : RecGood rec) {j r : Json} (h : normResponses rec j = .ok r)
    (hc : Clean r) : normResponses rec r = .ok r := by
  have hnd := normResponses_nd hr.nd h
  simp only [normResponses, bind_ok, pure_ok, concatMembers_pair] at h ⊢
  obtain ⟨b1, hb1, b2, hb2, rfl⟩ := h
  have ⟨i1, i2⟩ := normResponsesProps_img hb1
  have hx2 : ∀ m ∈ b2, isExtKey m.1 = true := fun m hm =>
    ((normExtensions_conf hb2).claimed m hm).elim (nomatch ·) (·.2)
  have o2 : Owns (b1 ++ b2) ⟨[], true⟩ b2 := ⟨hnd.1, hc, fun m hm => List.mem_append_right _ hm, fun m hm hcl =>
    (List.mem_append.mp hm).resolve_left fun h1 => by
      have := (i2 m h1).not_ext; rw [(hcl.resolve_left nofun).2] at this; cases this⟩
  exact ⟨b1, normResponsesProps_second hr i1 i2 hnd.1 hc hx2, b2, normExtensions_second hb2 o2, rfl⟩

/-! ### Paths -/

theorem normPaths_second {rec : Rec} (hr : RecGood rec) {j r : Json} (h : normPaths rec j = .ok r)
    (hc : Clean r) : normPaths rec r = .ok r := by
  have hnd := normPaths_nd hr.nd h
  cases j <;> simp only [normPaths, bind_ok, pure_ok, goError_ok, concatMembers_pair] at h
  · subst h; rfl
  · obtain ⟨exts, hexts, pths, hpths, rfl⟩ := h
    have hx := mapMembersR_filter_keys (q := isExtKey) hexts
    have hp := mapMembersR_filter_keys (q := startsWithSlash) hpths
    -- no name both starts with a slash and looks like an extension: each filter finds its own half
    have e1 : (toGoMap (exts ++ pths)).filter (fun m => isExtKey m.1) = exts :=
      toGoMap_filter_eq _ hnd.1 (mapMembersR_mem hexts).1 fun m => by
        rw [List.mem_append]
        exact ⟨fun h => ⟨.inl h, hx m h⟩, fun ⟨h, hq⟩ => h.resolve_right fun h' => by
          have := startsWithSlash_not_ext _ (hp m h'); rw [hq] at this; cases this⟩
    have e2 : (toGoMap (exts ++ pths)).filter (fun m => startsWithSlash m.1) = pths :=
      toGoMap_filter_eq _ hnd.1 (mapMembersR_mem hpths).1 fun m => by
        rw [List.mem_append]
        exact ⟨fun h => ⟨.inr h, hp m h⟩, fun ⟨h, hq⟩ => h.resolve_left fun h' => by
          have := startsWithSlash_not_ext _ hq; rw [hx m h'] at this; cases this⟩
    simp only [normPaths, rawMap, e1, e2, mapMembersR_second hexts fun _ _ _ => normAny_idem, ok_bind,
      mapMembersR_second hpths fun m hm x hx' =>
        hr.idem _ x _ hx' (cleanM_vals hc m (List.mem_append_right _ hm)).1, concatMembers_pair]
    rfl

/-! ### the dispatcher and the recursion -/

/-- kinds that go through the generic `ConcatJSON` codec -/
def regularKinds : List KindInfo :=
  Gen.kinds.filter fun ki => !(["schema", "response", "responses", "paths", "securityScheme"].contains ki.kind) &&
    ki.marshalShape != "reflect"

/-- everything the idempotence argument needs from the GENERATED tables, beyond `TablesOK` -/
structure IdemTablesOK : Prop where
  base : TablesOK
  schemaOmit : schemaAllOmit = true
  noDead : regularKinds.all (fun ki => (deadTargets ki).isEmpty) = true

/-- every kind returns an object: a concatenation of parts, or the members of a struct -/
theorem normKind_isObj {rec : Rec} (hr : RecND rec) (hT : tablesNodup Gen.structs = true) (k : String) {j r : Json}
    (h : normKind rec k j = .ok r) : ∃ ms, r = .obj ms := by
  revert h
  refine normKind_cases (P := fun a _ => a = .ok r → ∃ ms, r = .obj ms) (rec' := rec) (j' := j) k ?_ ?_ ?_ ?_ ?_ nofun
    (fun ki _ _ => ?_) (fun ki _ _ _ => ?_) <;> intro h
  · cases j with
    | null => exact ⟨_, (pure_ok.mp h).symm⟩
    | obj ms =>
      simp only [normSchema, bind_ok, pure_ok, concatMembers_eq] at h
      obtain ⟨_, _, _, _, _, _, _, _, _, _, rfl⟩ := h; exact ⟨_, rfl⟩
    | _ => cases h
  · obtain ⟨bs, rfl, -⟩ := normResponse_parts hr hT h; exact ⟨_, rfl⟩
  · simp only [normResponses, bind_ok, pure_ok, concatMembers_eq] at h
    obtain ⟨_, _, _, _, rfl⟩ := h; exact ⟨_, rfl⟩
  · cases j with
    | null => exact ⟨_, (pure_ok.mp h).symm⟩
    | obj ms =>
      simp only [normPaths, bind_ok, pure_ok, concatMembers_eq] at h
      obtain ⟨_, _, _, _, rfl⟩ := h; exact ⟨_, rfl⟩
    | _ => cases h
  · obtain ⟨bs, rfl, -⟩ := normSecurityScheme_parts hr hT h; exact ⟨_, rfl⟩
  · obtain ⟨ms, -, h⟩ := bind_ok.mp h; exact ⟨ms, (pure_ok.mp h).symm⟩
  · obtain ⟨bs, rfl, -⟩ := normConcatKind_parts hr hT ki h; exact ⟨_, rfl⟩

theorem normKind_second {rec : Rec} (hr : RecGood rec) (ok : IdemTablesOK) (k : String) {j r : Json}
    (h : normKind rec k j = .ok r) (hc : Clean r) : normKind rec k r = .ok r := by
  have hcu := ok.base.custom
  simp only [customKindsOK, Bool.and_eq_true] at hcu
  have hT := ok.base.tables
  revert h
  refine normKind_cases (P := fun a a' => a = .ok r → a' = .ok r) (rec' := rec) (j' := r) k ?_ ?_ ?_ ?_ ?_ nofun
    (fun ki _ _ => ?_) (fun ki hk hki hshape => ?_) <;> intro h
  · exact normSchema_second hr hT hcu.1.1 ok.schemaOmit h hc
  · exact normResponse_second hr hT hcu.1.2 h hc
  · exact normResponses_second hr h hc
  · exact normPaths_second hr h hc
  · exact normSecurityScheme_second hr hT hcu.2 h hc
  · -- a kind without a custom codec: one part, the whole output
    simp only [bind_ok, pure_ok] at h ⊢
    obtain ⟨ms, hms, rfl⟩ := h
    have hnd := (lookupStruct_nodup hT _).sublist (normStruct_nd hr.nd _ j ms hms).1
    exact ⟨ms, normStruct_second hr hT _ hms ⟨hnd, hc, fun _ hm => hm, fun _ hm _ => hm⟩, rfl⟩
  · have hmem := List.mem_of_find?_eq_some hki
    have hreg : ki ∈ regularKinds :=
      List.mem_filter.mpr ⟨hmem, by rw [lookupKind_kind hki, hk]; simpa using hshape⟩
    exact normConcatKind_second hr hT ki (List.all_eq_true.mp ok.base.kinds ki hmem)
      (by simpa using List.all_eq_true.mp ok.noDead ki hreg) h hc

theorem normF_good (ok : IdemTablesOK) : ∀ fuel, RecGood (normF fuel) := by
  intro fuel
  induction fuel with
  -- (`nofun` would do, at the price of a matcher over all the bound variables)
  | zero => exact ⟨fun _ _ _ h => (nomatch h), fun _ _ _ h => (nomatch h), normF_nd ok.base 0⟩
  | succ n ih =>
    refine ⟨fun t v r h hc => ?_, fun k v r h => normKind_isObj (normF_nd ok.base n) ok.base.tables k h,
      normF_nd ok.base (n + 1)⟩
    cases t
    · exact normKind_second ih ok _ h hc
    · exact normNamed_second ih _ h hc

/-- **C07 for whole documents, at any fuel**: decoding and encoding the output again, with the same budget,
returns the output. -/
theorem normF_idem (ok : IdemTablesOK) (fuel : Nat) (k : String) (j j₁ : Json)
    (h : normF fuel (.kind k) j = .ok j₁) (hc : Clean j₁) : normF fuel (.kind k) j₁ = .ok j₁ :=
  (normF_good ok fuel).idem _ _ _ h hc

end SpecModel.Codec
