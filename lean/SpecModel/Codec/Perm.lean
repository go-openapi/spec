/-
C01, whole documents: the codec does not depend on the order in which an object's members are written.

    Eqv c j  →  Tidy c  →  Tidy j  →  norm K c = ok r  →  norm K j = ok r

(proved here for `normF` at every budget, `normF_eqv`; the `norm` form is `Props/C01`, through `Fuel.lean`).

`Eqv c j`: `j` is `c` with the members of any of its objects, at any depth, written in another order (arrays keep
their order).  `Tidy`: no object has two members of the same name, and every member name is `NameOK`: not a case
variant of a keyword (two such names would be read into the same Go field and the later would win: order would
matter).  (`NameOK` is shared with `Clean` and also asks that an extension prefix is spelt `x-`; nothing here uses that.)
Consequence (`Props/C01`): if ONE ordering `c` of a document is reproduced by decode+encode, every reordering of it
decodes and encodes to `c` — the round trip is lossless up to member order.

The proof walks through the codec comparing the run on `c` with the run on `j` (`EqvT`).  Scalars related by `Eqv`
are equal, so every step only has to look at a pair of objects or a pair of arrays (`EqvT.elim`); what the codec
does with the members of an object it does through `mapMembersR`, a field lookup or the Go map `rawMap`, and for
each there is one lemma about reordered member lists (`mapMembersR_eqv`, `fieldState_eqv`, `toGoMap_eqv`).
-/
import SpecModel.Codec.Clean
import SpecModel.Codec.Fuel

namespace SpecModel.Codec
open SpecModel

-- no proof may look inside the generated tables (see Lemmas.lean)
attribute [local irreducible] Gen.structs Gen.kinds

mutual
  def Eqv : Json → Json → Prop
    | .obj ms, .obj ms' => EqvM ms ms' ∧ (∀ k ∈ keysOf ms', k ∈ keysOf ms)
    | .arr xs, .arr ys => EqvL xs ys
    | .num a, .num b => a = b
    | .str a, .str b => a = b
    | .bool a, .bool b => a = b
    | .null, .null => True
    | _, _ => False
  def EqvL : List Json → List Json → Prop
    | [], [] => True
    | x :: xs, y :: ys => Eqv x y ∧ EqvL xs ys
    | _, _ => False
  /-- every member of the first list has a partner of the same name in the second -/
  def EqvM : List (String × Json) → List (String × Json) → Prop
    | [], _ => True
    | (k, v) :: rest, ms' => (∃ v', (k, v') ∈ ms' ∧ Eqv v v') ∧ EqvM rest ms'
end

mutual
  def Tidy : Json → Prop
    | .arr xs => TidyL xs
    | .obj ms => (keysOf ms).Nodup ∧ TidyM ms
    | _ => True
  def TidyL : List Json → Prop
    | [] => True
    | x :: xs => Tidy x ∧ TidyL xs
  def TidyM : List (String × Json) → Prop
    | [] => True
    | (k, v) :: rest => NameOK k ∧ Tidy v ∧ TidyM rest
end

theorem tidyM_iff {ms : List (String × Json)} : TidyM ms ↔ ∀ m ∈ ms, NameOK m.1 ∧ Tidy m.2 :=
  conj_iff_forall_mem trivial fun ⟨_, _⟩ _ => and_assoc.symm

theorem tidyL_iff {xs : List Json} : TidyL xs ↔ ∀ x ∈ xs, Tidy x :=
  conj_iff_forall_mem trivial fun _ _ => Iff.rfl

theorem eqvM_iff {ms ms' : List (String × Json)} :
    EqvM ms ms' ↔ ∀ m ∈ ms, ∃ v', (m.1, v') ∈ ms' ∧ Eqv m.2 v' :=
  conj_iff_forall_mem (Q := (EqvM · ms')) trivial fun ⟨_, _⟩ _ => Iff.rfl

/-! ### a tidy value and a tidy reordering of it -/

def EqvT (v v' : Json) : Prop := Eqv v v' ∧ Tidy v ∧ Tidy v'

theorem eqv_shape {v v' : Json} (h : Eqv v v') :
    (∃ ms ms', v = .obj ms ∧ v' = .obj ms') ∨ (∃ xs ys, v = .arr xs ∧ v' = .arr ys) ∨ v' = v := by
  cases v <;> cases v' <;> simp only [Eqv] at h <;> simp [h]

/-- a codec treats a value and its reordering alike if it does so for objects and for arrays -/
theorem EqvT.elim {α : Type} {f : Json → R α} {v v' : Json} (h : EqvT v v')
    (obj : ∀ {ms ms'}, EqvT (.obj ms) (.obj ms') → LeR (f (.obj ms)) (f (.obj ms')))
    (arr : ∀ {xs ys}, EqvT (.arr xs) (.arr ys) → LeR (f (.arr xs)) (f (.arr ys))) : LeR (f v) (f v') := by
  rcases eqv_shape h.1 with ⟨ms, ms', rfl, rfl⟩ | ⟨xs, ys, rfl, rfl⟩ | rfl
  · exact obj h
  · exact arr h
  · exact .refl _

/-- two objects: names distinct and well spelt on both sides, the same names, every member has a partner -/
theorem EqvT.obj {ms ms' : List (String × Json)} (h : EqvT (.obj ms) (.obj ms')) :
    (keysOf ms).Nodup ∧ (keysOf ms').Nodup ∧ (∀ k ∈ keysOf ms', k ∈ keysOf ms) ∧ (∀ m ∈ ms, NameOK m.1) ∧
      (∀ m ∈ ms', NameOK m.1) ∧ ∀ m ∈ ms, ∃ v', (m.1, v') ∈ ms' ∧ EqvT m.2 v' := by
  obtain ⟨⟨he, hk⟩, ⟨hn, ht⟩, hn', ht'⟩ := h
  have ht := tidyM_iff.mp ht
  have ht' := tidyM_iff.mp ht'
  refine ⟨hn, hn', hk, fun m hm => (ht m hm).1, fun m hm => (ht' m hm).1, fun m hm => ?_⟩
  obtain ⟨v', hv', hev⟩ := eqvM_iff.mp he m hm
  exact ⟨v', hv', hev, (ht m hm).2, (ht' _ hv').2⟩

/-! ### element-wise codecs -/

/-- a map codec gives the same Go map on a reordered object whose values it treats alike -/
theorem mapMembersR_eqv {f f' : Json → R Json} {ms ms' : List (String × Json)}
    (hn : (keysOf ms).Nodup) (hn' : (keysOf ms').Nodup) (hk : ∀ k ∈ keysOf ms', k ∈ keysOf ms)
    (hf : ∀ m ∈ ms, ∃ v', (m.1, v') ∈ ms' ∧ LeR (f m.2) (f' v')) :
    LeR (mapMembersR f ms) (mapMembersR f' ms') := by
  intro ys hys
  have ⟨c1, _, c3⟩ := mapMembersR_char ms ys hn hys
  have heach := mapMembersR_ok_each hys
  -- every member of the reordered object is the partner of a member of the original
  have hback : ∀ m' ∈ ms', ∃ m ∈ ms, m.1 = m'.1 ∧ LeR (f m.2) (f' m'.2) := fun m' hm' => by
    obtain ⟨m, hm, e⟩ := List.mem_map.mp (hk _ (mem_keysOf hm'))
    obtain ⟨v', hv', hle⟩ := hf m hm
    cases (lookupKey_of_mem hn' (e ▸ hv')).symm.trans (lookupKey_of_mem hn' hm')
    exact ⟨m, hm, e, hle⟩
  obtain ⟨ys', hys'⟩ := mapMembersR_total (f := f') ms' fun m' hm' =>
    let ⟨m, hm, _, hle⟩ := hback m' hm'
    let ⟨y, hy⟩ := heach m hm
    ⟨y, hle y hy⟩
  have ⟨d1, _, d3⟩ := mapMembersR_char ms' ys' hn' hys'
  rw [hys', sorted_ext d1 c1 fun x => (d3 x).trans (Iff.trans ⟨?_, ?_⟩ (c3 x).symm)]
  · rintro ⟨m', hm', h1, h2⟩
    obtain ⟨m, hm, e, hle⟩ := hback m' hm'
    obtain ⟨y, hy⟩ := heach m hm
    exact ⟨m, hm, e.trans h1, hy.trans ((hle y hy).symm.trans h2)⟩
  · rintro ⟨m, hm, h1, h2⟩
    obtain ⟨v', hv', hle⟩ := hf m hm
    exact ⟨(m.1, v'), hv', h1, hle _ h2⟩

theorem mapMembersR_obj_eqv {f f' : Json → R Json} {ms ms' : List (String × Json)} (h : EqvT (.obj ms) (.obj ms'))
    (hf : ∀ m ∈ ms, ∀ v', EqvT m.2 v' → LeR (f m.2) (f' v')) : LeR (mapMembersR f ms) (mapMembersR f' ms') :=
  have ⟨hn, hn', hk, _, _, hp⟩ := h.obj
  mapMembersR_eqv hn hn' hk fun m hm => let ⟨v', hv', he⟩ := hp m hm; ⟨v', hv', hf m hm v' he⟩

theorem eqvL_mem {xs ys : List Json} (he : EqvL xs ys) : ∀ y ∈ ys, ∃ x ∈ xs, Eqv x y := by
  induction xs generalizing ys with
  | nil => cases ys with
    | nil => nofun
    | cons => cases he
  | cons x xs ih => cases ys with
    | nil => cases he
    | cons y ys =>
      intro z hz
      rcases List.mem_cons.mp hz with rfl | hz
      · exact ⟨x, List.mem_cons_self, he.1⟩
      · obtain ⟨a, ha, hab⟩ := ih he.2 z hz
        exact ⟨a, List.mem_cons_of_mem _ ha, hab⟩

theorem mapR_eqv {f f' : Json → R Json} {xs ys : List Json} (h : EqvT (.arr xs) (.arr ys))
    (hf : ∀ x ∈ xs, ∀ y, EqvT x y → LeR (f x) (f' y)) : LeR (mapR f xs) (mapR f' ys) := by
  obtain ⟨he, ht, ht'⟩ : EqvL xs ys ∧ TidyL xs ∧ TidyL ys := h
  induction xs generalizing ys with
  | nil => cases ys with
    | nil => exact .refl _
    | cons => cases he
  | cons x xs ih => cases ys with
    | nil => cases he
    | cons y ys =>
      exact (hf x List.mem_cons_self y ⟨he.1, ht.1, ht'.1⟩).bind fun _ =>
        (ih (fun a ha => hf a (List.mem_cons_of_mem _ ha)) he.2 ht.2 ht'.2).bind_left

/-! ### free-form values -/

theorem normAny_eqvT : ∀ {v v' : Json}, EqvT v v' → LeR (normAny v) (normAny v') := by
  intro v
  induction v using Json.induction with
  | arr xs ih =>
    intro v' h
    rcases eqv_shape h.1 with ⟨_, _, ⟨⟩, _⟩ | ⟨_, ys, ⟨⟩, rfl⟩ | rfl
    · simp only [normAny, normAnyList_eq_map]
      exact (mapR_eqv h fun x hx _ => ih x hx).bind_left
    · exact .refl _
  | obj ms ih =>
    intro v' h
    rcases eqv_shape h.1 with ⟨_, ms', ⟨⟩, rfl⟩ | ⟨_, _, ⟨⟩, _⟩ | rfl
    · simp only [normAny, normAnyMembers_eq_map]
      exact (mapMembersR_obj_eqv h fun m hm _ => ih m hm).bind_left
    · exact .refl _
  | _ => intro v' h; rcases eqv_shape h.1 with ⟨_, _, ⟨⟩, _⟩ | ⟨_, _, ⟨⟩, _⟩ | rfl; exact .refl _

theorem normAny_eqv : ∀ (v v' : Json), Eqv v v' → Tidy v → Tidy v' → LeR (normAny v) (normAny v') :=
  fun _ _ he ht ht' => normAny_eqvT ⟨he, ht, ht'⟩

theorem normAnyMembers_eqvAux : ∀ (ms : List (String × Json)), ∀ m ∈ ms, ∀ v', Eqv m.2 v' → Tidy m.2 → Tidy v' →
      LeR (normAny m.2) (normAny v') :=
  fun _ m _ => normAny_eqv m.2

theorem normAnyMembers_eqv {ms ms' : List (String × Json)} (h : EqvT (.obj ms) (.obj ms')) :
    LeR (normAnyMembers ms) (normAnyMembers ms') := by
  rw [normAnyMembers_eq_map, normAnyMembers_eq_map]
  exact mapMembersR_obj_eqv h fun _ _ _ => normAny_eqvT

theorem genericMap_eqv {j j' : Json} (h : EqvT j j') : LeR (genericMap j) (genericMap j') :=
  h.elim normAnyMembers_eqv fun _ => .refl _

/-! ### the reflective codec -/

def RecEqv (r : Rec) : Prop := ∀ t v v', Eqv v v' → Tidy v → Tidy v' → LeR (r t v) (r t v')

theorem RecEqv.app {r : Rec} (hr : RecEqv r) {v v' : Json} (h : EqvT v v') (t : Target) : LeR (r t v) (r t v') :=
  hr t v v' h.1 h.2.1 h.2.2

theorem strElem_eqv {x y : Json} (h : EqvT x y) : LeR (strElem x) (strElem y) :=
  h.elim (fun _ => .refl _) fun _ => .refl _

theorem strsVal_eqv {x y : Json} (h : EqvT x y) : LeR (strsVal x) (strsVal y) :=
  h.elim (fun _ => .refl _) fun h => (mapR_eqv h fun _ _ _ => strElem_eqv).bind_left

theorem secReqVal_eqv {x y : Json} (h : EqvT x y) : LeR (secReqVal x) (secReqVal y) :=
  h.elim (fun h => (mapMembersR_obj_eqv h fun _ _ _ => strsVal_eqv).bind_left) fun _ => .refl _

theorem ptrTo_eqv {r : Rec} (hr : RecEqv r) (t : Target) {x y : Json} (h : EqvT x y) :
    LeR (ptrTo r t x) (ptrTo r t y) :=
  h.elim (hr.app · t) (hr.app · t)

theorem normFT_eqv {r : Rec} (hr : RecEqv r) (ft : FT) {v v' : Json} (h : EqvT v v') :
    LeR (normFT r ft v) (normFT r ft v') := by
  cases ft with
  | any => exact normAny_eqvT h
  | strs => exact strsVal_eqv h
  | ptrKind k | valKind k | ptrNamed k | named k => exact hr.app h _
  -- on an array `anys` is `normAny`, and so is `anyMap` on an object
  | anys => exact h.elim (fun _ => .refl _) normAny_eqvT
  | anyMap => exact h.elim normAny_eqvT fun _ => .refl _
  | strMap => exact h.elim (fun h => (mapMembersR_obj_eqv h fun _ _ _ => strElem_eqv).bind_left) fun _ => .refl _
  | mapKind k | mapNamed k =>
    exact h.elim (fun h => (mapMembersR_obj_eqv h fun _ _ _ => (hr.app · _)).bind_left) fun _ => .refl _
  | secReqs => exact h.elim (fun _ => .refl _) fun h => (mapR_eqv h fun _ _ _ => secReqVal_eqv).bind_left
  | listKind k => exact h.elim (fun _ => .refl _) fun h => (mapR_eqv h fun _ _ _ => (hr.app · _)).bind_left
  | other g =>
    refine h.elim (fun h => ?_) fun _ => ?_ <;> rw [normFT_other r g, normFT_other r g]
    · exact .ite (mapMembersR_obj_eqv h fun _ _ _ => ptrTo_eqv hr _).bind_left (.refl _)
    · exact .refl _
  | _ => exact h.elim (fun _ => .refl _) fun _ => .refl _

theorem decodeField_eqv {r : Rec} (hr : RecEqv r) (ft : FT) (cur : Option Json) {v v' : Json} (h : EqvT v v') :
    LeR (decodeField r ft cur v) (decodeField r ft cur v') :=
  -- neither an object nor an array is `null`, so both reduce to the second arm of `decodeField`
  h.elim (fun h => (normFT_eqv hr ft h).bind_left) fun h => (normFT_eqv hr ft h).bind_left

theorem fieldState_eqv {r : Rec} (hr : RecEqv r) {all : List Field} (hkw : ∀ f ∈ all, f.jsonName ∈ keywordList)
    (f : Field) (hf : f.jsonName ∈ all.map (·.jsonName)) {ms ms' : List (String × Json)}
    (he : Eqv (.obj ms) (.obj ms')) (ht : Tidy (.obj ms)) (ht' : Tidy (.obj ms')) :
    LeR (fieldState r all f ms) (fieldState r all f ms') := by
  have ⟨hn, hn', hk, hok, hok', hp⟩ := EqvT.obj ⟨he, ht, ht'⟩
  unfold fieldState
  -- on well-spelt distinct names the field reads the one member that carries its name
  rw [fieldVals_eq hkw hf hok, filter_key_nodup _ hn, fieldVals_eq hkw hf hok', filter_key_nodup _ hn']
  cases hl : lookupKey ms f.jsonName with
  | none => rw [lookupKey_none fun hmem => lookupKey_none_not_mem hl (hk _ hmem)]; exact .refl _
  | some v =>
    obtain ⟨v', hv', hev⟩ := hp _ (lookupKey_mem hl)
    rw [lookupKey_of_mem hn' hv']
    exact (decodeField_eqv hr f.ft none hev).bind_left

theorem normFields_eqv {r : Rec} (hr : RecEqv r) {all : List Field} (hkw : ∀ f ∈ all, f.jsonName ∈ keywordList)
    {ms ms' : List (String × Json)} (h : EqvT (.obj ms) (.obj ms')) (fs : List Field)
    (hfs : ∀ f ∈ fs, f.jsonName ∈ all.map (·.jsonName)) : LeR (normFields r all fs ms) (normFields r all fs ms') :=
  normFields_rel fs fun f hf => fieldState_eqv hr hkw f (hfs f hf) h.1 h.2.1 h.2.2

theorem normStruct_eqv {r : Rec} (hr : RecEqv r) (n : String) {j j' : Json} (h : EqvT j j') :
    LeR (normStruct r (lookupStruct Gen.structs n) j) (normStruct r (lookupStruct Gen.structs n) j') :=
  h.elim (fun h => normFields_eqv hr (lookupStruct_keywords n) h _ fun _ => List.mem_map_of_mem) fun _ => .refl _

/-! ### the named union types and the kinds -/

theorem normNamed_eqv {r : Rec} (hr : RecEqv r) (n : String) {v v' : Json} (h : EqvT v v') :
    LeR (normNamed r n v) (normNamed r n v') := by
  refine h.elim (fun h => ?_) fun h => ?_
  · exact normNamed_cases n (.refl _) (hr.app h _) (hr.app h _) (hr.app h _)
      (mapMembersR_obj_eqv h fun _ _ _ => (hr.app · _)).bind_left fun _ => .refl _
  · have hstr := mapR_eqv (f := strElem) (f' := strElem) h fun _ _ _ => strElem_eqv
    exact normNamed_cases n hstr.bind_left (.refl _) (mapR_eqv h fun _ _ _ => (hr.app · _)).bind_left hstr.bind_left
      (.refl _) fun _ => .refl _

theorem normSchema_eqv {r : Rec} (hr : RecEqv r) {v v' : Json} (h : EqvT v v') :
    LeR (normSchema r v) (normSchema r v') := by
  refine h.elim (fun h => ?_) fun _ => .refl _
  exact (normFields_eqv hr schemaTables_keywords h _ fun _ hf => List.mem_map_of_mem (List.mem_append_left _ hf)).bind
    fun _ => (normFields_eqv hr schemaTables_keywords h _ fun _ hf =>
      List.mem_map_of_mem (List.mem_append_right _ hf)).bind fun _ =>
    (normAnyMembers_eqv h).bind_left

theorem normResponse_eqv {r : Rec} (hr : RecEqv r) {j j' : Json} (h : EqvT j j') :
    LeR (normResponse r j) (normResponse r j') := by
  refine h.elim (fun h => ?_) fun _ => .refl _
  have hf := normFields_eqv hr (lookupStruct_keywords "ResponseProps") h
  have hg := genericMap_eqv h
  simp only [normResponse_unfold, structMembers, pure_bind]
  exact (hf _ fun _ => List.mem_map_of_mem).bind fun _ => hg.bind_left.bind fun _ => hg.bind_left.bind fun _ =>
    .ite (hf _ fun _ hf => setOmitEmpty_names .. ▸ List.mem_map_of_mem hf).bind_left (.refl _)

theorem normSecurityScheme_eqv {r : Rec} (hr : RecEqv r) {j j' : Json} (h : EqvT j j') :
    LeR (normSecurityScheme r j) (normSecurityScheme r j') := by
  refine h.elim (fun h => ?_) fun _ => .refl _
  have hf := normFields_eqv hr (lookupStruct_keywords "SecuritySchemeProps") h
  simp only [normSecurityScheme, structMembers, pure_bind]
  exact (hf _ fun _ => List.mem_map_of_mem).bind fun _ => (genericMap_eqv h).bind_left.bind fun _ =>
    .ite (.refl _) (hf _ fun _ hf => setOmitEmpty_names .. ▸ List.mem_map_of_mem hf).bind_left

theorem normOperationProps_eqv {r : Rec} (hr : RecEqv r) {j j' : Json} (h : EqvT j j') :
    LeR (normOperationProps r j) (normOperationProps r j') := by
  refine h.elim (fun h => ?_) fun _ => .refl _
  have hkw : ∀ f ∈ tableOf "OperationProps", f.jsonName ∈ keywordList := lookupStruct_keywords _
  unfold normOperationProps
  generalize tableOf "OperationProps" = props at hkw
  simp only [structMembers, pure_bind]
  refine (normFields_eqv hr hkw h _ fun _ hf => List.mem_map_of_mem (List.mem_filter.mp hf).1).bind fun _ => ?_
  split
  · next f hf =>
    exact (fieldState_eqv hr hkw f (List.mem_map_of_mem (List.mem_of_find?_eq_some hf)) h.1 h.2.1 h.2.2).bind_left
  · exact .refl _

theorem normPart_eqv {r : Rec} (hr : RecEqv r) (p : String) {j j' : Json} (h : EqvT j j') :
    LeR (normPart r p j) (normPart r p j') :=
  normPart_cases p (fun _ => (genericMap_eqv h).bind_left) (fun _ => (genericMap_eqv h).bind_left)
    (fun _ => normOperationProps_eqv hr h) fun _ _ => normStruct_eqv hr p h

/-! ### Go maps of reordered objects: same keys in the same (sorted) order, partner values -/

/-- the value the reordered object holds under the name of `m` -/
def partnerIn (ms' : List (String × Json)) (m : String × Json) : Json := (lookupKey ms' m.1).getD m.2

theorem toGoMap_eqv {ms ms' : List (String × Json)} (he : Eqv (.obj ms) (.obj ms')) (ht : Tidy (.obj ms))
    (ht' : Tidy (.obj ms')) :
    toGoMap ms' = (toGoMap ms).map (fun m => (m.1, partnerIn ms' m)) ∧
      ∀ m ∈ toGoMap ms, Eqv m.2 (partnerIn ms' m) ∧ Tidy m.2 ∧ Tidy (partnerIn ms' m) := by
  have ⟨hn, hn', hk, _, _, hp⟩ := EqvT.obj ⟨he, ht, ht'⟩
  have hmem := toGoMap_mem_iff ms hn
  have hpi : ∀ m ∈ ms, (m.1, partnerIn ms' m) ∈ ms' ∧ EqvT m.2 (partnerIn ms' m) := fun m hm => by
    obtain ⟨v', hv', hev⟩ := hp m hm
    rw [partnerIn, lookupKey_of_mem hn' hv']
    exact ⟨hv', hev⟩
  refine ⟨toGoMap_eq_of_sorted_mem hn' ?_ fun x => ⟨fun hx => ?_, fun hx => ?_⟩, fun m hm => (hpi m ((hmem m).mp hm)).2⟩
  · unfold KeysSorted
    rw [List.map_map]
    exact toGoMap_sorted ms
  · obtain ⟨m, hm, e⟩ := List.mem_map.mp (hk _ (mem_keysOf hx))
    refine List.mem_map.mpr ⟨m, (hmem m).mpr hm, Prod.ext e ?_⟩
    rw [partnerIn, e, lookupKey_of_mem hn' hx]
    rfl
  · obtain ⟨m, hm, rfl⟩ := List.mem_map.mp hx
    exact (hpi m ((hmem m).mp hm)).1

theorem normResponsesProps_eqv {r : Rec} (hr : RecEqv r) {j j' : Json} (h : EqvT j j') :
    LeR (normResponsesProps r j) (normResponsesProps r j') :=
  h.elim (fun h => have ⟨e, hp⟩ := toGoMap_eqv h.1 h.2.1 h.2.2
    normResponsesProps_map e fun m hm => hr.app (hp m hm) _) fun _ => .refl _

theorem normPaths_eqv {r : Rec} (hr : RecEqv r) {j j' : Json} (h : EqvT j j') :
    LeR (normPaths r j) (normPaths r j') :=
  h.elim (fun h => have ⟨e, hp⟩ := toGoMap_eqv h.1 h.2.1 h.2.2
    normPaths_map e (fun m hm => normAny_eqvT (hp m hm)) fun m hm => hr.app (hp m hm) _) fun _ => .refl _

/-! ### the dispatcher and the recursion -/

theorem normKind_eqv {r : Rec} (hr : RecEqv r) (k : String) {j j' : Json} (h : EqvT j j') :
    LeR (normKind r k j) (normKind r k j') :=
  normKind_cases k (normSchema_eqv hr h) (normResponse_eqv hr h)
    ((normResponsesProps_eqv hr h).bind fun _ => (genericMap_eqv h).bind_left.bind_left) (normPaths_eqv hr h)
    (normSecurityScheme_eqv hr h) (fun _ => .refl _) (fun _ _ _ => (normStruct_eqv hr _ h).bind_left)
    fun ki _ _ _ => normConcatKind_rel (fun p => normPart_eqv hr p h) (fun _ => .refl _) ki

theorem normF_eqv : ∀ n, RecEqv (normF n)
  | 0, _, _, _, _, _, _ => nofun
  | n + 1, .kind k, _, _, he, ht, ht' => normKind_eqv (normF_eqv n) k ⟨he, ht, ht'⟩
  | n + 1, .named nm, _, _, he, ht, ht' => normNamed_eqv (normF_eqv n) nm ⟨he, ht, ht'⟩

/-! ### `Tidy` from the two facts already known about codec outputs -/

theorem tidy_of_clean_nd : ∀ (j : Json), Clean j → ND j → Tidy j := by
  intro j
  induction j using Json.induction with
  | arr xs ih => exact fun hc hn => tidyL_iff.mpr fun x hx => ih x hx (clean_arr hc x hx) (ndl_iff.mp hn x hx)
  | obj ms ih =>
    exact fun hc hn => ⟨hn.1, tidyM_iff.mpr fun m hm =>
      have ⟨h1, _, h3⟩ := cleanM_iff.mp hc m hm
      ⟨h1, ih m hm h3 (ndm_iff.mp hn.2 m hm)⟩⟩
  | _ => exact fun _ _ => trivial

theorem tidyL_of_clean_nd : ∀ (xs : List Json), CleanL xs → NDL xs → TidyL xs :=
  fun xs hc hn => tidy_of_clean_nd (.arr xs) hc hn

theorem tidyM_of_clean_nd : ∀ (ms : List (String × Json)), CleanM ms → NDM ms → TidyM ms :=
  fun _ hc hn => tidyM_iff.mpr fun m hm =>
    have ⟨h1, _, h3⟩ := cleanM_iff.mp hc m hm
    ⟨h1, tidy_of_clean_nd m.2 h3 (ndm_iff.mp hn m hm)⟩

theorem eqv_obj_intro {ms ms' : List (String × Json)} (h1 : ∀ m ∈ ms, ∃ v', (m.1, v') ∈ ms' ∧ Eqv m.2 v')
    (h2 : ∀ k ∈ keysOf ms', k ∈ keysOf ms) : Eqv (.obj ms) (.obj ms') :=
  ⟨eqvM_iff.mpr h1, h2⟩

theorem eqv_num (n : Int) : Eqv (.num n) (.num n) := rfl
theorem eqv_str (s : String) : Eqv (.str s) (.str s) := rfl
theorem eqv_null : Eqv .null .null := trivial
theorem eqv_arr_swap_false : ¬ Eqv (.arr [.num 1, .num 2]) (.arr [.num 2, .num 1]) :=
  fun h => (by decide : ¬ (1 : Int) = 2) h.1

/-! ### an executable test for `Tidy` (run by the driver on generated documents) -/

def nodupB : List String → Bool
  | [] => true
  | k :: ks => !ks.contains k && nodupB ks

theorem nodupB_sound : ∀ (ks : List String), nodupB ks = true → ks.Nodup
  | [], _ => List.nodup_nil
  | k :: ks, h => by
      simp only [nodupB, Bool.and_eq_true, Bool.not_eq_true', List.contains_eq_mem, decide_eq_false_iff_not] at h
      exact List.nodup_cons.mpr ⟨h.1, nodupB_sound ks h.2⟩

mutual
  def tidyB : Json → Bool
    | .arr xs => tidyLB xs
    | .obj ms => nodupB (keysOf ms) && tidyMB ms
    | _ => true
  def tidyLB : List Json → Bool
    | [] => true
    | x :: xs => tidyB x && tidyLB xs
  def tidyMB : List (String × Json) → Bool
    | [] => true
    | (k, v) :: rest => nameOKB k && tidyB v && tidyMB rest
end

mutual
  theorem tidyB_sound : ∀ (j : Json), tidyB j = true → Tidy j
    | .obj ms, h => by
        simp only [tidyB, Bool.and_eq_true] at h
        exact ⟨nodupB_sound _ h.1, tidyMB_sound ms h.2⟩
    | .arr xs, h => tidyLB_sound xs h
    | .null, _ | .bool _, _ | .num _, _ | .str _, _ => trivial
  theorem tidyLB_sound : ∀ (xs : List Json), tidyLB xs = true → TidyL xs
    | [], _ => trivial
    | x :: xs, h => by
        simp only [tidyLB, Bool.and_eq_true] at h
        exact ⟨tidyB_sound x h.1, tidyLB_sound xs h.2⟩
  theorem tidyMB_sound : ∀ (ms : List (String × Json)), tidyMB ms = true → TidyM ms
    | [], _ => trivial
    | (k, v) :: rest, h => by
        simp only [tidyMB, Bool.and_eq_true] at h
        exact ⟨nameOKB_sound h.1.1, tidyB_sound v h.1.2, tidyMB_sound rest h.2⟩
end

end SpecModel.Codec
