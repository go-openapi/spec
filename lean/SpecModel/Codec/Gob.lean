/-
M6 — what `encoding/gob` transport does to a decoded document, expressed on its JSON encoding.

gob omits zero-valued struct fields and cannot tell an empty slice from a nil one, so for a value `v` of one
of the model kinds, `json.Marshal(gobDecode(gobEncode v))` differs from `json.Marshal v` in exactly two ways
(observed on the real code and tied to it by the `gob` correspondence on every run):

* a numeric validation held through a pointer (`*float64`, `*int64`) whose value is 0 comes back as a nil
  pointer: the member disappears;
* inside free-form values (`interface{}`: default, example, enum elements, examples, extension values, unknown
  schema keywords) an empty array `[]interface{}{}` comes back nil: it prints as `null`; likewise an empty
  `items` tuple.
Everything else — empty-but-present security requirements (padded by the custom GobEncode of Swagger and
Operation), references (gob of their JSON form), boolean-or-schema unions, nested kinds — is preserved.

`gobJ kind j` computes the JSON after transport from the JSON before, by kind, from the GENERATED tables.
-/
import SpecModel.Codec.Norm

namespace SpecModel.Codec
open SpecModel

mutual
  /-- a free-form value after gob transport -/
  def gobAny : Json → Json
    | .arr [] => .null
    | .arr (x :: xs) => .arr (gobAny x :: gobAnyList xs)
    | .obj ms => .obj (gobAnyMembers ms)
    | j => j
  def gobAnyList : List Json → List Json
    | [] => []
    | x :: xs => gobAny x :: gobAnyList xs
  def gobAnyMembers : List (String × Json) → List (String × Json)
    | [] => []
    | (k, v) :: rest => (k, gobAny v) :: gobAnyMembers rest
end

abbrev GRec := Target → Json → Json

def mapVals (f : Json → Json) (ms : List (String × Json)) : List (String × Json) := ms.map fun m => (m.1, f m.2)

/-- a member of field type `ft` with encoded value `v`; `none` = the member disappears -/
def gobFT (rec : GRec) (ft : FT) (v : Json) : Option Json :=
  match ft, v with
  | .optInt, .num 0 => none
  | .optFloat, .num 0 => none
  | .any, j => some (gobAny j)
  | .anys, .arr xs => some (.arr (gobAnyList xs))
  | .anyMap, .obj ms => some (.obj (gobAnyMembers ms))
  | .ptrKind k, j => some (rec (.kind k) j)
  | .valKind k, j => some (rec (.kind k) j)
  | .listKind k, .arr xs => some (.arr (xs.map (rec (.kind k))))
  | .mapKind k, .obj ms => some (.obj (mapVals (rec (.kind k)) ms))
  | .ptrNamed n, j => some (rec (.named n) j)
  | .mapNamed n, .obj ms => some (.obj (mapVals (rec (.named n)) ms))
  | .named n, j => some (rec (.named n) j)
  | .other "spec.SecurityDefinitions", .obj ms => some (.obj (mapVals (rec (.kind "securityScheme")) ms))
  | _, j => some j

/-- the struct tables whose fields a kind's encoding is made of -/
def partsOfKind (k : String) : List String :=
  if k == "schema" then ["SchemaProps", "SwaggerSchemaProps"]
  else match lookupKind Gen.kinds k with
    | none => []
    | some ki => if ki.marshalShape == "reflect" then [ki.goType] else ki.marshalParts

def fieldsOfKind (k : String) : List Field := (partsOfKind k).flatMap tableOf

def gobMember (rec : GRec) (k : String) (fs : List Field) (m : String × Json) : Option (String × Json) :=
  if isExtKey m.1 then some (m.1, gobAny m.2)
  else match fs.find? (·.jsonName == m.1) with
    | some f => (gobFT rec f.ft m.2).map fun v => (m.1, v)
    | none =>
      if k == "schema" && !(m.1 == "$ref" || m.1 == "$schema") then some (m.1, gobAny m.2)   -- ExtraProps
      else if k == "responses" then some (m.1, rec (.kind "response") m.2)                    -- default / status codes
      else if k == "paths" then some (m.1, rec (.kind "pathItem") m.2)
      else some m

def gobKind (rec : GRec) (k : String) : Json → Json
  | .obj ms => .obj (ms.filterMap (gobMember rec k (fieldsOfKind k)))
  | j => j

def gobNamed (rec : GRec) (n : String) : Json → Json
  | .obj ms =>
      if n == "SchemaProperties" then .obj (mapVals (rec (.kind "schema")) ms)
      else rec (.kind "schema") (.obj ms)          -- SchemaOrBool / SchemaOrArray / SchemaOrStringArray holding a schema
  | .arr [] => if n == "SchemaOrArray" then .null else .arr []   -- an empty tuple comes back nil
  | .arr xs => if n == "SchemaOrArray" then .arr (xs.map (rec (.kind "schema"))) else .arr xs
  | j => j

def gobF : Nat → Target → Json → Json
  | 0, _, j => j
  | fuel + 1, .kind k, j => gobKind (gobF fuel) k j
  | fuel + 1, .named n, j => gobNamed (gobF fuel) n j

/-- the JSON encoding after gob transport of the value whose JSON encoding is `j` -/
def gobJ (kind : String) (j : Json) : Json := gobF (fuelFor j) (.kind kind) j

/-! ### what survives -/

mutual
  /-- no empty array anywhere inside -/
  def NoEmptyArr : Json → Prop
    | .arr [] => False
    | .arr (x :: xs) => NoEmptyArr x ∧ NoEmptyArrL xs
    | .obj ms => NoEmptyArrM ms
    | _ => True
  def NoEmptyArrL : List Json → Prop
    | [] => True
    | x :: xs => NoEmptyArr x ∧ NoEmptyArrL xs
  def NoEmptyArrM : List (String × Json) → Prop
    | [] => True
    | (_, x) :: xs => NoEmptyArr x ∧ NoEmptyArrM xs
end

mutual
  theorem gobAny_of_noEmptyArr : ∀ j : Json, NoEmptyArr j → gobAny j = j
    | .arr [], h => h.elim
    | .arr (x :: xs), h => by rw [gobAny, gobAny_of_noEmptyArr x h.1, gobAnyList_of_noEmptyArr xs h.2]
    | .obj ms, h => by rw [gobAny, gobAnyMembers_of_noEmptyArr ms h]
    | .null, _ | .bool _, _ | .num _, _ | .str _, _ => rfl
  theorem gobAnyList_of_noEmptyArr : ∀ xs : List Json, NoEmptyArrL xs → gobAnyList xs = xs
    | [], _ => rfl
    | x :: xs, h => by rw [gobAnyList, gobAny_of_noEmptyArr x h.1, gobAnyList_of_noEmptyArr xs h.2]
  theorem gobAnyMembers_of_noEmptyArr : ∀ ms : List (String × Json), NoEmptyArrM ms → gobAnyMembers ms = ms
    | [], _ => rfl
    | (k, v) :: rest, h => by rw [gobAnyMembers, gobAny_of_noEmptyArr v h.1, gobAnyMembers_of_noEmptyArr rest h.2]
end

end SpecModel.Codec
