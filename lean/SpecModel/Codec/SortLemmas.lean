/-
`OrderSchemaItems.Less` (x-order, then name) is a strict total order on members with distinct names, so the
insertion sort that models `sort.Sort` has exactly one possible result: the encoding of `properties` /
`patternProperties` does not depend on the order in which Go's map iteration hands the members over.
Core Lean only.
-/
import SpecModel.Codec.Lemmas

namespace SpecModel.Codec
open SpecModel

/-! ### generic: insertion sort -/

section generic
variable {α : Type} (lt : α → α → Bool)

theorem insertBy_perm (a : α) (l : List α) : (insertBy lt a l).Perm (a :: l) := by
  fun_induction insertBy lt a l with
  | case1 => exact .refl _
  | case2 b rest _ ih => exact (ih.cons b).trans (.swap a b rest)
  | case3 => exact .refl _

theorem sortBy_perm (l : List α) : (sortBy lt l).Perm l := by
  induction l with
  | nil => exact List.Perm.refl _
  | cons a rest ih =>
    show (insertBy lt a (sortBy lt rest)).Perm (a :: rest)
    exact (insertBy_perm lt a _).trans (List.Perm.cons a ih)

theorem mem_insertBy {a x : α} {l : List α} : x ∈ insertBy lt a l ↔ x = a ∨ x ∈ l := by
  rw [(insertBy_perm lt a l).mem_iff]; simp

theorem mem_sortBy {x : α} {l : List α} : x ∈ sortBy lt l ↔ x ∈ l := (sortBy_perm lt l).mem_iff

theorem insertBy_pairwise {a : α} {l : List α}
    (trans : ∀ x y z, lt x y = true → lt y z = true → lt x z = true)
    (total : ∀ b ∈ l, lt b a = true ∨ lt a b = true)
    (h : l.Pairwise (fun x y => lt x y = true)) :
    (insertBy lt a l).Pairwise (fun x y => lt x y = true) := by
  fun_induction insertBy lt a l with
  | case1 => simp
  | case2 b rest hba ih =>
    have ⟨hb, hrest⟩ := List.pairwise_cons.mp h
    refine List.pairwise_cons.mpr ⟨fun y hy => ?_, ih (fun c hc => total c (List.mem_cons_of_mem _ hc)) hrest⟩
    rcases (mem_insertBy lt).mp hy with rfl | hy
    · exact hba
    · exact hb y hy
  | case3 b rest hnba =>
    have hab : lt a b = true := (total b List.mem_cons_self).resolve_left hnba
    refine List.pairwise_cons.mpr ⟨fun y hy => ?_, h⟩
    rcases List.mem_cons.mp hy with rfl | hy
    · exact hab
    · exact trans _ _ _ hab (List.rel_of_pairwise_cons h hy)

end generic

/-! ### `lessItem` -/

theorem lessItem_some {a b : String × Json} {i j : Int} (ha : xOrder a.2 = some i) (hb : xOrder b.2 = some j) :
    lessItem a b = true ↔ i < j ∨ i = j ∧ a.1 < b.1 := by
  by_cases h : i = j <;> simp [lessItem, ha, hb, h]

theorem lessItem_asymm (a b : String × Json) : lessItem a b = true → lessItem b a = true → False := by
  intro h1 h2
  cases ha : xOrder a.2 <;> cases hb : xOrder b.2
  case some.some =>
    rcases (lessItem_some ha hb).mp h1 with h1 | ⟨rfl, h1⟩ <;> rcases (lessItem_some hb ha).mp h2 with h2 | ⟨_, h2⟩
    · omega
    · omega
    · omega
    · exact String.lt_asymm h1 h2
  -- a member without `x-order` never precedes one with; two without go by name
  all_goals simp [lessItem, ha, hb] at h1 h2
  exact String.lt_asymm h1 h2

theorem lessItem_trans (a b c : String × Json) : lessItem a b = true → lessItem b c = true → lessItem a c = true := by
  intro h1 h2
  cases ha : xOrder a.2 <;> cases hb : xOrder b.2 <;> cases hc : xOrder c.2
  case some.some.some =>
    refine (lessItem_some ha hc).mpr ?_
    rcases (lessItem_some ha hb).mp h1 with h1 | ⟨rfl, h1⟩ <;> rcases (lessItem_some hb hc).mp h2 with h2 | ⟨rfl, h2⟩
    · exact .inl (by omega)
    · exact .inl h1
    · exact .inl h2
    · exact .inr ⟨rfl, String.lt_trans h1 h2⟩
  all_goals simp [lessItem, ha, hb, hc] at h1 h2 ⊢
  exact String.lt_trans h1 h2

theorem lessItem_total (a b : String × Json) (h : a.1 ≠ b.1) : lessItem a b = true ∨ lessItem b a = true := by
  have hs : a.1 < b.1 ∨ b.1 < a.1 := (Std.lt_trichotomy a.1 b.1).elim .inl fun h' => h'.elim (absurd · h) .inr
  cases ha : xOrder a.2 <;> cases hb : xOrder b.2
  case some.some i j =>
    rw [lessItem_some ha hb, lessItem_some hb ha]
    rcases Int.lt_trichotomy i j with hij | rfl | hij
    · exact .inl (.inl hij)
    · exact hs.imp (fun h => .inr ⟨rfl, h⟩) fun h => .inr ⟨rfl, h⟩
    · exact .inr (.inl hij)
  all_goals simp [lessItem, ha, hb]
  exact hs

theorem sortBy_lessItem_pairwise {l : List (String × Json)} (hn : (l.map (·.1)).Nodup) :
    (sortBy lessItem l).Pairwise (fun x y => lessItem x y = true) := by
  induction l with
  | nil => simp [sortBy]
  | cons a rest ih =>
    have ⟨ha, hrest⟩ := List.nodup_cons.mp hn
    show (insertBy lessItem a (sortBy lessItem rest)).Pairwise _
    refine insertBy_pairwise lessItem lessItem_trans (fun b hb => lessItem_total b a fun heq => ?_) (ih hrest)
    exact ha (List.mem_map.mpr ⟨b, (mem_sortBy lessItem).mp hb, heq⟩)

/-- **Determinism of the `properties` encoding**: whatever order the members arrive in (Go's map iteration),
the sorted list is the same. -/
theorem sortBy_lessItem_perm_invariant {l₁ l₂ : List (String × Json)} (hp : l₁.Perm l₂)
    (hn : (l₁.map (·.1)).Nodup) : sortBy lessItem l₁ = sortBy lessItem l₂ :=
  (((sortBy_perm lessItem l₁).trans hp).trans (sortBy_perm lessItem l₂).symm).eq_of_pairwise
    (fun a b _ _ h1 h2 => (lessItem_asymm a b h1 h2).elim) (sortBy_lessItem_pairwise hn)
    (sortBy_lessItem_pairwise ((hp.map _).nodup_iff.mp hn))

end SpecModel.Codec
