/-
C15 — a model of the hand-written `JSONLookup` methods (one token), expressed on the JSON encoding of the typed
value, driven by the GENERATED lookup chains; and the theorem that it finds every member the encoder emits.

`lookupTok K ms tok`: the answer of `K.JSONLookup(tok)` on the typed value whose encoding is `.obj ms`, as the JSON
encoding of what it returns (`none` = "object has no field"). The chain of parts consulted, in order, is
`lookupChain` of the kind (go/ast over the method bodies); what each part answers is written here by hand from
the Go code and tied to it by the `lookup` correspondence on every run:
  Extensions          the member of that exact name, if it is an `x-` name
  ExtraProps          (schema) a member that is neither an `x-` name, `$ref`, `$schema` nor a declared keyword
  Ref                 `$ref`: the Ref object itself (not the string: the property excludes `$ref`)
  a props struct      the field of that JSON name (name provider), i.e. the member if it is present
  Default             (responses) `default`
  StatusCodeResponses (responses) a decimal numeral: the member under the canonical numeral
  Paths               (paths) a member whose name starts with `/`
-/
import SpecModel.Codec.Clean

namespace SpecModel.Codec
open SpecModel

-- no proof may look inside the generated tables (see Lemmas.lean)
attribute [local irreducible] Gen.structs Gen.kinds

/-- what one consulted part answers for a token (`none` = not mine); `absent` stands for the encoding of the zero
value of a declared field whose member is not present (not compared: the property is about present members) -/
def partAnswer (k : String) (ms : List (String × Json)) (tok : String) (part : String) : Option Json :=
  if part == "Extensions" then (if isExtKey tok then lookupKey ms tok else none)
  else if part == "ExtraProps" then (if schemaExtra tok && !isExtKey tok then lookupKey ms tok else none)
  else if part == "Ref" then
    (if tok == "$ref" then some (.obj ((lookupKey ms "$ref").toList.map fun v => ("$ref", v))) else none)
  else if part == "Default" then (if tok == "default" then some ((lookupKey ms "default").getD .null) else none)
  else if part == "StatusCodeResponses" then
    (match atoi tok with
     | some n => lookupKey ms (itoa n)
     | none => none)
  else if part == "Paths" then (if startsWithSlash tok then lookupKey ms tok else none)
  else if (tableNames (lookupStruct Gen.structs part)).contains tok then some ((lookupKey ms tok).getD (.str "<absent>"))
  else none

def chainAnswer (k : String) (ms : List (String × Json)) (tok : String) : List String → Option Json
  | [] => none
  | p :: ps => match partAnswer k ms tok p with
    | some v => some v
    | none => chainAnswer k ms tok ps

def lookupTok (k : String) (ms : List (String × Json)) (tok : String) : Option Json :=
  match lookupKind Gen.kinds k with
  | some ki => chainAnswer k ms tok ki.lookupChain
  | none => none

/-- names of the chain entries that are not props structs -/
def specialParts : List String := ["Extensions", "ExtraProps", "Ref", "Default", "StatusCodeResponses", "Paths"]

/-! ### what each part answers -/

section
variable {k : String} {ms : List (String × Json)} {tok : String} {w : Json}

theorem partAnswer_ext :
    partAnswer k ms tok "Extensions" = some w ↔ isExtKey tok = true ∧ lookupKey ms tok = some w := by
  simp [partAnswer]

theorem partAnswer_extra : partAnswer k ms tok "ExtraProps" = some w ↔
    (schemaExtra tok = true ∧ isExtKey tok = false) ∧ lookupKey ms tok = some w := by
  simp [partAnswer]

theorem partAnswer_ref : partAnswer k ms tok "Ref" = some w ↔
    tok = "$ref" ∧ .obj ((lookupKey ms "$ref").toList.map fun v => ("$ref", v)) = w := by
  simp [partAnswer]

theorem partAnswer_default : partAnswer k ms tok "Default" = some w ↔
    tok = "default" ∧ (lookupKey ms "default").getD .null = w := by
  simp [partAnswer]

theorem partAnswer_status : partAnswer k ms tok "StatusCodeResponses" = some w ↔
    ∃ n, atoi tok = some n ∧ lookupKey ms (itoa n) = some w := by
  simp only [partAnswer]
  cases atoi tok <;> simp

theorem partAnswer_paths :
    partAnswer k ms tok "Paths" = some w ↔ startsWithSlash tok = true ∧ lookupKey ms tok = some w := by
  simp [partAnswer]

theorem partAnswer_struct {p : String} (hp : p ∉ specialParts) : partAnswer k ms tok p = some w ↔
    tok ∈ tableNames (lookupStruct Gen.structs p) ∧ (lookupKey ms tok).getD (.str "<absent>") = w := by
  simp only [specialParts, List.mem_cons, List.not_mem_nil, or_false, not_or, ← beq_eq_false_iff_ne] at hp
  simp [partAnswer, hp]

theorem chainAnswer_eq : ∀ chain, chainAnswer k ms tok chain = chain.findSome? (partAnswer k ms tok)
  | [] => rfl
  | p :: ps => by
    rw [chainAnswer, List.findSome?_cons, chainAnswer_eq ps]
    cases partAnswer k ms tok p <;> rfl

end

/-- every part answers a PRESENT member, if at all, with that member (`$ref` and non-canonical numerals excepted) -/
theorem partAnswer_present {k : String} {ms : List (String × Json)} {tok : String} {v : Json}
    (hl : lookupKey ms tok = some v) (hne : tok ≠ "$ref") (hcanon : ∀ n, atoi tok = some n → itoa n = tok)
    (hdef : tok = "default" → True) (part : String) (w : Json) (h : partAnswer k ms tok part = some w) : w = v := by
  have found : ∀ {c : Prop}, c ∧ lookupKey ms tok = some w → w = v := fun h => Option.some.inj (h.2.symm.trans hl)
  by_cases hp : part ∈ specialParts
  · simp only [specialParts, List.mem_cons, List.not_mem_nil, or_false] at hp
    rcases hp with rfl | rfl | rfl | rfl | rfl | rfl
    · exact found (partAnswer_ext.mp h)
    · exact found (partAnswer_extra.mp h)
    · exact absurd (partAnswer_ref.mp h).1 hne
    · obtain ⟨rfl, h'⟩ := partAnswer_default.mp h
      rw [hl] at h'; exact h'.symm
    · obtain ⟨n, hn, h'⟩ := partAnswer_status.mp h
      rw [hcanon n hn] at h'; exact found ⟨trivial, h'⟩
    · exact found (partAnswer_paths.mp h)
  · have h' := ((partAnswer_struct hp).mp h).2
    rw [hl] at h'; exact h'.symm

/-- **the lookup of a kind finds a present member with its value as soon as ONE consulted part answers for it** -/
theorem lookupTok_of_answer {k : String} {ki : KindInfo} (hk : lookupKind Gen.kinds k = some ki)
    {ms : List (String × Json)} {tok : String} {v : Json} (hl : lookupKey ms tok = some v) (hne : tok ≠ "$ref")
    (hcanon : ∀ n, atoi tok = some n → itoa n = tok) {p : String} (hp : p ∈ ki.lookupChain)
    (ha : partAnswer k ms tok p = some v) : lookupTok k ms tok = some v := by
  simp only [lookupTok, hk, chainAnswer_eq]
  -- the first part that answers is `p` or an earlier one, and every part that answers, answers `v`
  cases h : ki.lookupChain.findSome? (partAnswer k ms tok) with
  | none => rw [List.findSome?_eq_none_iff.mp h p hp] at ha; cases ha
  | some w =>
    obtain ⟨q, _, hw⟩ := List.exists_of_findSome?_eq_some h
    rw [partAnswer_present hl hne hcanon (fun _ => trivial) q w hw]

/-! ### numerals -/

/-- a token that is no numeral at all is trivially a canonical one -/
theorem canon_of_none {tok : String} (h : atoi tok = none) (n : Int) (hn : atoi tok = some n) : itoa n = tok :=
  nomatch h.symm.trans hn

/-- member names of the generated tables are not decimal numerals -/
def keywordsNotNumerals : Bool := keywordList.all fun n => (atoi n).isNone

/-- an `x-` member is found as soon as the extensions are consulted -/
theorem lookupTok_ext {k : String} {ki : KindInfo} (hk : lookupKind Gen.kinds k = some ki)
    {ms : List (String × Json)} {tok : String} {v : Json} (hl : lookupKey ms tok = some v) (hx : isExtKey tok = true)
    (hp : "Extensions" ∈ ki.lookupChain) : lookupTok k ms tok = some v :=
  lookupTok_of_answer hk hl (fun e => absurd (e ▸ hx) (by decide)) (canon_of_none (atoi_ext hx)) hp
    (partAnswer_ext.mpr ⟨hx, hl⟩)

/-! ### side conditions on the regenerated chains, and the packaged theorems -/

/-- every live part of the kind is the extensions part, the reference part, or a props struct that the lookup chain
consults -/
def structCovered (ki : KindInfo) : Bool :=
  (liveParts ki).all fun p =>
    p == "VendorExtensible" || p == "Refable" || (ki.lookupChain.contains p && !specialParts.contains p)

def extCovered (ki : KindInfo) : Bool :=
  !(liveParts ki).contains "VendorExtensible" || ki.lookupChain.contains "Extensions"

/-- **regular kinds** (operation, parameter, header, items, path item, swagger, info, tag, security scheme, response, …):
a present member that one of the kind's encoded parts may emit is found by the typed lookup, with its value -/
theorem member_found_regular {k : String} {ki : KindInfo} (hk : lookupKind Gen.kinds k = some ki)
    (hcov : structCovered ki = true) (hext : extCovered ki = true) (hkw : keywordsNotNumerals = true)
    {ms : List (String × Json)} {tok : String} {v : Json} (hl : lookupKey ms tok = some v) (hne : tok ≠ "$ref")
    {d : PartDesc} (hd : d ∈ (liveParts ki).map descOf) (hc : claims d tok) : lookupTok k ms tok = some v := by
  obtain ⟨p, hp, rfl⟩ := List.mem_map.mp hd
  have hcovp := List.all_eq_true.mp hcov p hp
  unfold descOf at hc
  by_cases h1 : p = "VendorExtensible"
  · rw [if_pos (beq_iff_eq.mpr h1)] at hc
    refine lookupTok_ext hk hl (hc.elim (nomatch ·) (·.2)) ?_
    rw [extCovered, List.contains_iff_mem.mpr (h1 ▸ hp)] at hext
    exact List.contains_iff_mem.mp hext
  by_cases h2 : p = "Refable"
  · rw [if_neg (mt beq_iff_eq.mp h1), if_pos (beq_iff_eq.mpr h2)] at hc
    exact absurd (hc.elim List.mem_singleton.mp (nomatch ·.1)) hne
  · rw [if_neg (mt beq_iff_eq.mp h1), if_neg (mt beq_iff_eq.mp h2)] at hc
    have ht : tok ∈ tableNames (lookupStruct Gen.structs p) := hc.elim id (nomatch ·.1)
    obtain ⟨f, hf, rfl⟩ := List.mem_map.mp ht
    have hnum := List.all_eq_true.mp hkw _ (lookupStruct_keywords p f hf)
    simp only [Bool.or_eq_true, beq_iff_eq, h1, h2, false_or, Bool.and_eq_true, Bool.not_eq_true',
      List.contains_iff_mem] at hcovp
    exact lookupTok_of_answer hk hl hne (canon_of_none (Option.isNone_iff_eq_none.mp hnum)) hcovp.1
      ((partAnswer_struct fun h => Bool.eq_false_iff.mp hcovp.2 (List.contains_iff_mem.mpr h)).mpr ⟨ht, hl ▸ rfl⟩)

/-- membership in a chain, from the executable side condition -/
theorem mem_chain {chain l : List String} (h : l.all chain.contains = true) (p : String) (hp : p ∈ l := by simp) :
    p ∈ chain :=
  List.contains_iff_mem.mp (List.all_eq_true.mp h p hp)

/-- **schema**: declared keywords, extensions and unknown keywords are all found (`$ref` and `$schema` excepted:
the property excludes the former, the latter is known finding K-C15-1) -/
theorem member_found_schema {ki : KindInfo} (hk : lookupKind Gen.kinds "schema" = some ki)
    (hchain : ["Extensions", "ExtraProps", "SchemaProps", "SwaggerSchemaProps"].all ki.lookupChain.contains = true)
    {ms : List (String × Json)} {tok : String} {v : Json} (hl : lookupKey ms tok = some v) (hne : tok ≠ "$ref")
    (hns : tok ≠ "$schema") (hcanon : ∀ n, atoi tok = some n → itoa n = tok) : lookupTok "schema" ms tok = some v := by
  have found := @lookupTok_of_answer "schema" ki hk ms tok v hl hne hcanon
  cases hx : isExtKey tok
  case true => exact found (mem_chain hchain "Extensions") (partAnswer_ext.mpr ⟨hx, hl⟩)
  cases he : schemaExtra tok
  case true => exact found (mem_chain hchain "ExtraProps") (partAnswer_extra.mpr ⟨⟨he, hx⟩, hl⟩)
  -- neither: a declared keyword of one of the two props structs
  simp only [schemaExtra, Bool.not_eq_false', Bool.or_eq_true, beq_iff_eq, hne, hns, false_or, schemaKnown_eq,
    List.contains_iff_mem, List.mem_append] at he
  rcases he with ht | ht
  · exact found (mem_chain hchain "SchemaProps") ((partAnswer_struct (by simp [specialParts])).mpr ⟨ht, hl ▸ rfl⟩)
  · exact found (mem_chain hchain "SwaggerSchemaProps") ((partAnswer_struct (by simp [specialParts])).mpr ⟨ht, hl ▸ rfl⟩)

/-- **responses**: `default`, status codes (canonical numerals) and extensions -/
theorem member_found_responses {ki : KindInfo} (hk : lookupKind Gen.kinds "responses" = some ki)
    (hchain : ["Default", "Extensions", "StatusCodeResponses"].all ki.lookupChain.contains = true)
    {ms : List (String × Json)} {tok : String} {v : Json} (hl : lookupKey ms tok = some v)
    (hem : tok = "default" ∨ isExtKey tok = true ∨ ∃ n, tok = itoa n ∧ int64Range n) :
    lookupTok "responses" ms tok = some v := by
  rcases hem with rfl | hx | ⟨n, rfl, hr⟩
  · exact lookupTok_of_answer hk hl (by simp) (canon_of_none atoi_default) (mem_chain hchain "Default")
      (partAnswer_default.mpr ⟨rfl, hl ▸ rfl⟩)
  · exact lookupTok_ext hk hl hx (mem_chain hchain "Extensions")
  · have ha := atoi_itoa n hr
    refine lookupTok_of_answer hk hl (fun e => ?_) (fun m hm => ?_) (mem_chain hchain "StatusCodeResponses")
      (partAnswer_status.mpr ⟨n, ha, hl⟩)
    · rw [e, show atoi "$ref" = none by decide] at ha; cases ha
    · rw [ha] at hm; cases hm; rfl

/-- **paths**: path templates and extensions -/
theorem member_found_paths {ki : KindInfo} (hk : lookupKind Gen.kinds "paths" = some ki)
    (hchain : ["Paths", "Extensions"].all ki.lookupChain.contains = true)
    {ms : List (String × Json)} {tok : String} {v : Json} (hl : lookupKey ms tok = some v)
    (hem : startsWithSlash tok = true ∨ isExtKey tok = true) : lookupTok "paths" ms tok = some v := by
  rcases hem with hs | hx
  · exact lookupTok_of_answer hk hl (fun e => absurd (e ▸ hs) (by decide)) (canon_of_none (atoi_slash hs))
      (mem_chain hchain "Paths") (partAnswer_paths.mpr ⟨hs, hl⟩)
  · exact lookupTok_ext hk hl hx (mem_chain hchain "Extensions")

/-! ### what the encoders emit -/

/-- what the encoder of a regular kind emits is claimed by one of its live parts -/
theorem normConcatKind_claims {rec : Rec} (hr : RecND rec) (hT : tablesNodup Gen.structs = true) (ki : KindInfo)
    {j : Json} {ms : List (String × Json)} (h : normConcatKind rec ki j = .ok (.obj ms)) :
    ∀ m ∈ ms, ∃ d ∈ (liveParts ki).map descOf, claims d m.1 := by
  obtain ⟨bs, e, c⟩ := normConcatKind_parts hr hT ki h
  cases e
  exact confAll_claims c

theorem normResponses_members {rec : Rec} {j : Json} {ms : List (String × Json)}
    (h : normResponses rec j = .ok (.obj ms)) :
    ∀ m ∈ ms, m.1 = "default" ∨ isExtKey m.1 = true ∨ ∃ n, m.1 = itoa n ∧ int64Range n := by
  simp only [normResponses, bind_ok, pure_ok, concatMembers_pair] at h
  obtain ⟨b1, hb1, b2, hb2, e⟩ := h
  cases e
  intro m hm
  rcases List.mem_append.mp hm with h1 | h1
  · exact ((normResponsesProps_img hb1).2 m h1).2.imp_right .inr
  · exact .inr (.inl (((normExtensions_conf hb2).claimed m h1).elim (nomatch ·) (·.2)))

theorem normPaths_members {rec : Rec} {j : Json} {ms : List (String × Json)} (h : normPaths rec j = .ok (.obj ms)) :
    ∀ m ∈ ms, startsWithSlash m.1 = true ∨ isExtKey m.1 = true := by
  cases j <;> simp only [normPaths, bind_ok, pure_ok, goError_ok, concatMembers_pair] at h
  · cases h; nofun
  · obtain ⟨exts, hexts, pths, hpths, e⟩ := h
    cases e
    intro m hm
    rcases List.mem_append.mp hm with h1 | h1
    · exact .inr (mapMembersR_filter_keys hexts m h1)
    · exact .inl (mapMembersR_filter_keys hpths m h1)

/-! ### what `norm` returns (`Props/C15` composes these into the statements about actual encodings) -/

theorem nd_obj_lookup {ms : List (String × Json)} (h : ND (.obj ms)) {tok : String} {v : Json} (hm : (tok, v) ∈ ms) :
    lookupKey ms tok = some v :=
  lookupKey_of_mem h.1 hm

/-- what `norm` returns has no duplicate member, so `lookupKey` finds each; and it is what the codec of the kind
returns, run over a codec of the nested values that returns no duplicate members either (`rec` is `normF` at the
budget `norm` chose: the existential keeps the budget out of what follows) -/
theorem norm_kind (ok : TablesOK) {k : String} {j : Json} {ms : List (String × Json)} (h : norm k j = .ok (.obj ms)) :
    (∀ {tok v}, (tok, v) ∈ ms → lookupKey ms tok = some v) ∧ ∃ rec, RecND rec ∧ normKind rec k j = .ok (.obj ms) :=
  ⟨nd_obj_lookup (norm_nd ok k j _ h), _, normF_nd ok _, h⟩

/-- the kinds whose codec is the generic `ConcatJSON` one and that have a hand-written lookup -/
def concatLookupKind (ki : KindInfo) : Bool :=
  !(["schema", "response", "responses", "paths", "securityScheme"].contains ki.kind) &&
    ki.marshalShape != "reflect" && !ki.lookupChain.isEmpty

theorem concatLookupKind_iff {ki : KindInfo} : concatLookupKind ki = true ↔
    ki.kind ∉ ["schema", "response", "responses", "paths", "securityScheme"] ∧ ki.marshalShape ≠ "reflect" ∧
      ki.lookupChain.isEmpty = false := by
  simp [concatLookupKind, and_assoc]

theorem normKind_concat {rec : Rec} {k : String} {ki : KindInfo} (hk : lookupKind Gen.kinds k = some ki)
    (hc : concatLookupKind ki = true) (j : Json) : normKind rec k j = normConcatKind rec ki j := by
  obtain ⟨h1, h2, _⟩ := concatLookupKind_iff.mp hc
  rw [normKind_regular (lookupKind_kind hk ▸ h1) hk, if_neg (mt beq_iff_eq.mp h2)]

end SpecModel.Codec
