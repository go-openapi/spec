/-
The URL printing model is idempotent: `urlString s = ok t → urlString t = ok t`.

(`urlString` models `url.Parse` followed by `URL.String()` on the tame grammar: this is the canonicalisation every
`$ref` / `$schema` text goes through; C13 states its idempotence for the implementation, C07's whole-document
theorem needs it for the model.)

What `reescape` prints has the shape `PctOK`, which reads back as itself, and is related to what was read by `Esc`,
which carries over "is empty", "starts with `/`" and "has `//`". Every character printed before the `#` is a
printable ASCII character other than `#` and `?` (`Plain`), so the second parse cuts the text where the first
print joined it.
-/
import SpecModel.Codec.Url

namespace SpecModel.Codec

/-- the shape of what `reescape` prints: plain characters that need no escape, and upper-case `%XX` triples of bytes
that do -/
inductive PctOK (m : UrlMode) : List Char → Prop
  | nil : PctOK m []
  | keep {c rest} : untame c m = false → c.toNat < 0x80 → shouldEscape c m = false → PctOK m rest → PctOK m (c :: rest)
  | pct {a b x y rest} : hexVal a = some x → hexVal b = some y → isUpperHex a = true → isUpperHex b = true →
      (16 * x + y ≥ 0x80 ∨ shouldEscape (Char.ofNat (16 * x + y)) m = true) → PctOK m rest →
      PctOK m ('%' :: a :: b :: rest)

theorem pctOK_append {m : UrlMode} {a b : List Char} (ha : PctOK m a) (hb : PctOK m b) : PctOK m (a ++ b) := by
  induction ha with
  | nil => exact hb
  | keep h1 h2 h3 _ ih => exact .keep h1 h2 h3 ih
  | pct h1 h2 h3 h4 h5 _ ih => exact .pct h1 h2 h3 h4 h5 ih

theorem shouldEscape_pct (m : UrlMode) : shouldEscape '%' m = true := by cases m <;> decide

theorem ne_pct_of_unescaped {c : Char} {m : UrlMode} (h : shouldEscape c m = false) : c ≠ '%' := by
  rintro rfl; rw [shouldEscape_pct] at h; cases h

theorem reescape_of_pctOK {m : UrlMode} {cs : List Char} (h : PctOK m cs) : reescape m cs = some cs := by
  induction h with
  | nil => rfl
  | @keep c rest h1 h2 h3 _ ih =>
    have hc := ne_pct_of_unescaped h3
    -- the equation of the last arm of `reescape`: its side conditions say that the head is not `%`
    rw [reescape.eq_3 m c rest (fun _ _ _ e _ => hc e) hc, ih]
    simp [h1, h2, h3]
  | pct h1 h2 h3 h4 h5 _ ih => rcases h5 with h5 | h5 <;> simp [reescape, h1, h2, h3, h4, h5, ih]

theorem badEscape_cons_ne {c : Char} (hc : c ≠ '%') (rest : List Char) : badEscape (c :: rest) = badEscape rest :=
  badEscape.eq_3 c rest (fun _ _ _ e _ => hc e) hc

theorem pctOK_badEscape {m : UrlMode} {out : List Char} (h : PctOK m out) : badEscape out = false := by
  induction h with
  | nil => rfl
  | keep _ _ h3 _ ih => rw [badEscape_cons_ne (ne_pct_of_unescaped h3), ih]
  | pct h1 h2 _ _ _ _ ih => simp [badEscape, h1, h2, ih]

theorem badEscape_append_nopct {a : List Char} (h : ∀ c ∈ a, c ≠ '%') (b : List Char) :
    badEscape (a ++ b) = badEscape b := by
  induction a with
  | nil => rfl
  | cons x more ih => rw [List.cons_append, badEscape_cons_ne (h x (by simp)), ih fun y hy => h y (by simp [hy])]

/-! ### what `reescape` prints, and how it follows the slashes of what it reads -/

theorem hexVal_upperHex : ∀ n, n < 16 → hexVal (upperHex n) = some n ∧ isUpperHex (upperHex n) = true := by decide

theorem pctOK_pctByte {m : UrlMode} {b : Nat} (hb : b < 256)
    (hc : b ≥ 0x80 ∨ shouldEscape (Char.ofNat b) m = true) : PctOK m (pctByte b) := by
  have h1 := hexVal_upperHex (b / 16) (by omega)
  have h2 := hexVal_upperHex (b % 16) (by omega)
  have hb' : 16 * (b / 16) + b % 16 = b := by omega
  exact .pct h1.1 h2.1 h1.2 h2.2 (by rw [hb']; exact hc) .nil

theorem pctOK_bytes {m : UrlMode} {bs : List Nat} (h : ∀ b ∈ bs, 0x80 ≤ b ∧ b < 256) :
    PctOK m (bs.flatMap pctByte) := by
  induction bs with
  | nil => exact .nil
  | cons b more ih =>
    have hb := h b (by simp)
    exact pctOK_append (pctOK_pctByte hb.2 (.inl hb.1)) (ih fun x hx => h x (by simp [hx]))

theorem byte_ok {lead k lim : Nat} (hk : k < lim) (h : 0x80 ≤ lead ∧ lead + lim ≤ 256) :
    0x80 ≤ lead + k ∧ lead + k < 256 :=
  ⟨Nat.le_trans h.1 (Nat.le_add_right _ _), Nat.lt_of_lt_of_le (Nat.add_lt_add_left hk _) h.2⟩

/-- a character that is not ASCII is printed as two to four bytes, none of them ASCII: each is a marker plus a
quotient or a remainder that the range of the character bounds -/
theorem utf8Bytes_spec (c : Char) (h : ¬ c.toNat < 0x80) :
    utf8Bytes c ≠ [] ∧ ∀ b ∈ utf8Bytes c, 0x80 ≤ b ∧ b < 256 := by
  have cont : ∀ k, 0x80 ≤ 0x80 + k % 64 ∧ 0x80 + k % 64 < 256 := fun k =>
    byte_ok (Nat.mod_lt _ (by decide)) (by decide)
  have hv : c.toNat < 262144 * 16 := by
    have := c.valid
    simp only [UInt32.isValidChar, Nat.isValidChar] at this
    show c.val.toNat < _
    omega
  unfold utf8Bytes
  rw [if_neg h]
  by_cases h2 : c.toNat < 0x800
  · rw [if_pos h2]
    simp only [List.forall_mem_cons, List.not_mem_nil, false_imp_iff, implies_true, and_true, cont]
    exact ⟨nofun, byte_ok (lim := 32) (Nat.div_lt_of_lt_mul h2) (by decide)⟩
  rw [if_neg h2]
  by_cases h3 : c.toNat < 0x10000
  · rw [if_pos h3]
    simp only [List.forall_mem_cons, List.not_mem_nil, false_imp_iff, implies_true, and_true, cont]
    exact ⟨nofun, byte_ok (lim := 16) (Nat.div_lt_of_lt_mul h3) (by decide)⟩
  · rw [if_neg h3]
    simp only [List.forall_mem_cons, List.not_mem_nil, false_imp_iff, implies_true, and_true, cont]
    exact ⟨nofun, byte_ok (lim := 16) (Nat.div_lt_of_lt_mul hv) (by decide)⟩

/-- input and output of `reescape`, as far as slashes are concerned: a slash is printed as itself, any other
character as a non-empty piece without a slash -/
inductive Esc : List Char → List Char → Prop
  | nil : Esc [] []
  | slash {rest r} : Esc rest r → Esc ('/' :: rest) ('/' :: r)
  | other {c piece rest r} : c ≠ '/' → piece ≠ [] → (∀ x ∈ piece, x ≠ '/') → Esc rest r → Esc (c :: rest) (piece ++ r)

theorem Esc.same {c : Char} {rest r : List Char} (hc : c ≠ '/') (h : Esc rest r) : Esc (c :: rest) (c :: r) :=
  .other (piece := [c]) hc (List.cons_ne_nil _ _) (by simpa using hc) h

theorem isUpperHex_noslash {a : Char} (h : isUpperHex a = true) : a ≠ '/' := by
  rintro rfl; revert h; decide

theorem pctByte_noslash {b : Nat} (hb : b < 256) : ∀ x ∈ pctByte b, x ≠ '/' := by
  simp only [pctByte, List.forall_mem_cons, List.not_mem_nil, false_imp_iff, implies_true, and_true]
  exact ⟨by decide, isUpperHex_noslash (hexVal_upperHex _ (by omega)).2,
    isUpperHex_noslash (hexVal_upperHex _ (by omega)).2⟩

theorem shouldEscape_slash (m : UrlMode) : shouldEscape '/' m = false := by cases m <;> decide

theorem reescape_spec {m : UrlMode} : ∀ (cs out : List Char), reescape m cs = some out → PctOK m out ∧ Esc cs out := by
  intro cs
  fun_induction reescape m cs with
  | case1 a b rest x y hy hx byte hcond ih =>
    intro out h
    obtain ⟨r, hr, rfl⟩ := Option.map_eq_some_iff.mp h
    simp only [Bool.and_eq_true, Bool.or_eq_true, decide_eq_true_eq] at hcond
    have ⟨ok, esc⟩ := ih r hr
    exact ⟨.pct hx hy hcond.1.1 hcond.1.2 hcond.2 ok,
      .same (by decide) (.same (isUpperHex_noslash hcond.1.1) (.same (isUpperHex_noslash hcond.1.2) esc))⟩
  | case2 | case3 | case4 | case5 => intro out h; cases h
  | case6 c rest _ _ hunt hascii ih =>
    intro out h
    obtain ⟨r, hr, rfl⟩ := Option.map_eq_some_iff.mp h
    have ⟨ok, esc⟩ := ih r hr
    cases hs : shouldEscape c m with
    | true =>
      have hc : c ≠ '/' := by rintro rfl; rw [shouldEscape_slash] at hs; cases hs
      rw [if_pos rfl]
      exact ⟨pctOK_append (pctOK_pctByte (by omega) (.inr (by rw [Char.ofNat_toNat]; exact hs))) ok,
        .other hc (List.cons_ne_nil _ _) (pctByte_noslash (by omega)) esc⟩
    | false =>
      refine ⟨.keep (by simpa using hunt) hascii hs ok, ?_⟩
      by_cases hc : c = '/'
      · subst hc; exact .slash esc
      · exact .same hc esc
  | case7 c rest _ _ hunt hascii ih =>
    intro out h
    obtain ⟨r, hr, rfl⟩ := Option.map_eq_some_iff.mp h
    have ⟨ok, esc⟩ := ih r hr
    have ⟨hne, hrange⟩ := utf8Bytes_spec c hascii
    have hc : c ≠ '/' := by rintro rfl; exact hascii (by decide)
    refine ⟨pctOK_append (pctOK_bytes hrange) ok, .other hc ?_ ?_ esc⟩
    · cases hb : utf8Bytes c with
      | nil => exact absurd hb hne
      | cons b more => simp [pctByte]
    · intro x hx
      obtain ⟨b, hb, hxb⟩ := List.mem_flatMap.mp hx
      exact pctByte_noslash (hrange b hb).2 x hxb
  | case8 => intro out h; cases h; exact ⟨.nil, .nil⟩

theorem reescape_idem {m : UrlMode} {cs out : List Char} (h : reescape m cs = some out) : reescape m out = some out :=
  reescape_of_pctOK (reescape_spec cs out h).1

theorem esc_nil_iff {cs out : List Char} (h : Esc cs out) : out = [] ↔ cs = [] := by
  cases h with
  | nil => simp
  | slash _ => simp
  | other _ hp _ _ => simp [hp]

theorem esc_head {cs out : List Char} (h : Esc cs out) : out.head? = some '/' ↔ cs.head? = some '/' := by
  cases h with
  | nil => simp
  | slash _ => simp
  | @other c piece rest r hc hp hall _ =>
    cases piece with
    | nil => exact absurd rfl hp
    | cons x more => simp [hall x (by simp), hc]

theorem hds_cons_ne {c : Char} (hc : c ≠ '/') (rest : List Char) : hasDoubleSlash (c :: rest) = hasDoubleSlash rest :=
  hasDoubleSlash.eq_2 c rest fun _ e _ => hc e

theorem hds_slash_cons (rest : List Char) :
    hasDoubleSlash ('/' :: rest) = (rest.head? == some '/' || hasDoubleSlash rest) := by
  cases rest with
  | nil => rfl
  | cons d rest =>
    by_cases hd : d = '/'
    · subst hd; simp [hasDoubleSlash]
    · rw [hasDoubleSlash.eq_2 _ _ fun _ _ e => hd (List.cons.inj e).1]
      simp [hd]

theorem hds_append_noslash {piece : List Char} (h : ∀ x ∈ piece, x ≠ '/') (r : List Char) :
    hasDoubleSlash (piece ++ r) = hasDoubleSlash r := by
  induction piece with
  | nil => rfl
  | cons x more ih => rw [List.cons_append, hds_cons_ne (h x (by simp)), ih fun y hy => h y (by simp [hy])]

theorem esc_hds {cs out : List Char} (h : Esc cs out) : hasDoubleSlash out = hasDoubleSlash cs := by
  induction h with
  | nil => rfl
  | @slash rest r hr ih =>
    have : (r.head? == some '/') = (rest.head? == some '/') := Bool.eq_iff_iff.mpr (by simpa using esc_head hr)
    rw [hds_slash_cons, hds_slash_cons, ih, this]
  | other hc _ hall _ ih => rw [hds_append_noslash hall, hds_cons_ne hc, ih]

/-! ### the characters of the printed text before the `#` -/

/-- a printable ASCII character other than the delimiters in `bad` -/
abbrev Plain (bad : List Char) (c : Char) : Prop := 0x21 ≤ c.toNat ∧ c.toNat < 0x7f ∧ c ∉ bad

theorem Plain.ne {bad : List Char} {c x : Char} (h : Plain bad c) (hx : x ∈ bad) : c ≠ x :=
  fun e => h.2.2 (e ▸ hx)

theorem Plain.mono {bad bad' : List Char} {c : Char} (h : Plain bad c) (hs : ∀ x ∈ bad', x ∈ bad) : Plain bad' c :=
  ⟨h.1, h.2.1, fun hx => h.2.2 (hs c hx)⟩

theorem contains_of_plain {bad l : List Char} {x : Char} (h : ∀ c ∈ l, Plain bad c) (hx : x ∈ bad) :
    l.contains x = false :=
  Bool.eq_false_iff.mpr fun hc => (h x (List.contains_iff_mem.mp hc)).ne hx rfl

theorem toNat_eq_of_char {c : Char} {k : Nat} (h : c.toNat = k) (hk : k < 128) : c = Char.ofNat k := by
  rw [← h, Char.ofNat_toNat]

theorem char_le_toNat {a b : Char} (h : a ≤ b) : a.toNat ≤ b.toNat :=
  UInt32.le_iff_toNat_le.mp (Char.le_def.mp h)

/-- a character in a range of printable characters that holds no delimiter (the side condition is closed: `decide`) -/
theorem plain_of_between {bad : List Char} {lo hi c : Char} (h : (decide (lo ≤ c) && decide (c ≤ hi)) = true)
    (hb : 0x21 ≤ lo.toNat ∧ hi.toNat < 0x7f ∧ ∀ x ∈ bad, x.toNat < lo.toNat ∨ hi.toNat < x.toNat) : Plain bad c := by
  simp only [Bool.and_eq_true, decide_eq_true_eq] at h
  have h1 := char_le_toNat h.1
  have h2 := char_le_toNat h.2
  exact ⟨by omega, by omega, fun hx => by have := hb.2.2 c hx; omega⟩

/-- what `shouldEscape` lets through in a path besides letters and digits -/
def pathMarks : List Char := ['-', '_', '.', '~', '$', '&', '+', ',', '/', ':', ';', '=', '@']

theorem unescaped_path {c : Char} (h : shouldEscape c .path = false) : isAlnum c = true ∨ c ∈ pathMarks := by
  by_cases ha : isAlnum c = true
  · exact .inl ha
  by_cases hl : c ∈ pathMarks
  · exact .inr hl
  simp only [pathMarks, List.mem_cons, List.not_mem_nil, or_false, not_or] at hl
  simp [shouldEscape, ha, hl] at h

/-- of the marks only `:` is a delimiter, and it is untame -/
theorem plain_of_unescaped {c : Char} (h1 : untame c .path = false) (h2 : shouldEscape c .path = false) :
    Plain ['#', '?', ':'] c := by
  rcases unescaped_path h2 with ha | hl
  · simp only [isAlnum, Bool.or_eq_true] at ha
    rcases ha with (ha | ha) | ha <;> exact plain_of_between ha (by decide)
  · exact (by decide : ∀ x ∈ pathMarks, untame x .path = false → Plain ['#', '?', ':'] x) c hl h1

theorem plain_of_upperHex {a : Char} (h : isUpperHex a = true) : Plain ['#', '?', ':'] a := by
  simp only [isUpperHex, Bool.or_eq_true] at h
  rcases h with h | h <;> exact plain_of_between h (by decide)

theorem pctOK_chars {out : List Char} (h : PctOK .path out) : ∀ c ∈ out, Plain ['#', '?', ':'] c := by
  induction h with
  | nil => nofun
  | keep h1 _ h3 _ ih => exact List.forall_mem_cons.mpr ⟨plain_of_unescaped h1 h3, ih⟩
  | pct _ _ h3 h4 _ _ ih =>
    simp only [List.forall_mem_cons]
    exact ⟨by decide, plain_of_upperHex h3, plain_of_upperHex h4, ih⟩

/-- a character of a scheme or host name -/
theorem plain_of_authChar {d : Char}
    (h : (('a' ≤ d && d ≤ 'z') || ('0' ≤ d && d ≤ '9') || d == '+' || d == '.' || d == '-') = true) :
    Plain ['#', '?', ':', '/', '%'] d := by
  simp only [Bool.or_eq_true, beq_iff_eq] at h
  rcases h with (((h | h) | rfl) | rfl) | rfl
  · exact plain_of_between h (by decide)
  · exact plain_of_between h (by decide)
  all_goals decide

theorem scheme_chars {s : List Char} (h : isSchemeText s = true) : ∀ c ∈ s, Plain ['#', '?', ':', '/', '%'] c := by
  cases s with
  | nil => cases h
  | cons c rest =>
    simp only [isSchemeText, Bool.and_eq_true, List.all_eq_true] at h
    exact List.forall_mem_cons.mpr ⟨plain_of_authChar (by simp [h.1]), fun d hd => plain_of_authChar (h.2 d hd)⟩

theorem host_chars {s : List Char} (h : isHostText s = true) : ∀ c ∈ s, Plain ['#', '?', ':', '/', '%'] c := by
  intro d hd
  have := List.all_eq_true.mp h d hd
  refine plain_of_authChar ?_
  simp only [Bool.or_eq_true] at this ⊢
  rcases this with ((h | h) | h) | h <;> simp [h]

theorem pre_chars {scheme host : List Char} (hs : isSchemeText scheme = true) (hh : isHostText host = true) :
    ∀ c ∈ scheme ++ [':', '/', '/'] ++ host, Plain ['#', '?', '%'] c := by
  intro c hc
  simp only [List.mem_append, List.mem_cons, List.not_mem_nil, or_false] at hc
  rcases hc with (hc | rfl | rfl | rfl) | hc
  · exact (scheme_chars hs c hc).mono (by decide)
  · decide
  · decide
  · decide
  · exact (host_chars hh c hc).mono (by decide)

/-! ### cutting at a delimiter -/

/-- a text without `ch`, followed by nothing or by `ch`, is cut there -/
theorem span_until {ch : Char} {a b : List Char} (ha : ∀ c ∈ a, c ≠ ch) (hb : b = [] ∨ b.head? = some ch) :
    (a ++ b).takeWhile (· != ch) = a ∧ (a ++ b).dropWhile (· != ch) = b := by
  have hpos : ∀ c ∈ a, (c != ch) = true := fun c hc => bne_iff_ne.mpr (ha c hc)
  rw [List.takeWhile_append_of_pos hpos, List.dropWhile_append_of_pos hpos]
  cases b with
  | nil => simp
  | cons x b' =>
    have : x = ch := by simpa using hb
    simp [this]

theorem dropWhile_until (ch : Char) (l : List Char) :
    l.dropWhile (· != ch) = [] ∨ (l.dropWhile (· != ch)).head? = some ch := by
  have := List.head?_dropWhile_not (· != ch) l
  cases h : l.dropWhile (· != ch) with
  | nil => exact .inl rfl
  | cons x rest => rw [h] at this; simpa using this

theorem splitAuthority_plain {u : List Char} (h1 : u.contains ':' = false) (h2 : hasDoubleSlash u = false) :
    splitAuthority u = some ([], u) := by
  unfold splitAuthority
  rw [if_neg (by rw [h1]; simp)]
  split
  · simp [hasDoubleSlash] at h2
  · rfl

theorem splitAuthority_inv {u pre path : List Char} (h : splitAuthority u = some (pre, path)) :
    (pre = [] ∧ path = u ∧ u.contains ':' = false) ∨
    (∃ scheme host, pre = scheme ++ [':', '/', '/'] ++ host ∧ isSchemeText scheme = true ∧ isHostText host = true ∧
      (path = [] ∨ path.head? = some '/') ∧ (host.isEmpty && path.isEmpty) = false) := by
  unfold splitAuthority at h
  by_cases hc : u.contains ':' = true
  · rw [if_pos hc] at h
    right
    split at h
    · rename_i rest _
      simp only [Option.ite_none_right_eq_some, Bool.and_eq_true, Bool.not_eq_true', Option.some.injEq,
        Prod.mk.injEq] at h
      obtain ⟨⟨⟨hs, hh⟩, hne⟩, rfl, rfl⟩ := h
      exact ⟨_, _, rfl, hs, hh, dropWhile_until '/' rest, hne⟩
    · cases h
  · rw [if_neg hc] at h
    left
    split at h
    · cases h
    · cases h
      exact ⟨rfl, rfl, Bool.eq_false_iff.mpr hc⟩

theorem splitAuthority_auth {scheme host p : List Char} (hs : isSchemeText scheme = true) (hh : isHostText host = true)
    (hp : p = [] ∨ p.head? = some '/') (hne : (host.isEmpty && p.isEmpty) = false) :
    splitAuthority (scheme ++ [':', '/', '/'] ++ host ++ p) = some (scheme ++ [':', '/', '/'] ++ host, p) := by
  have e0 : scheme ++ [':', '/', '/'] ++ host ++ p = scheme ++ (':' :: '/' :: '/' :: (host ++ p)) := by simp
  have ⟨htw, hdw⟩ := span_until (b := ':' :: '/' :: '/' :: (host ++ p))
    (fun c hc => (scheme_chars hs c hc).ne (by decide)) (.inr rfl)
  have ⟨htw2, hdw2⟩ := span_until (fun c hc => (host_chars hh c hc).ne (by decide)) hp
  unfold splitAuthority
  rw [if_pos (by simp)]
  simp only [e0, htw, hdw, htw2, hdw2, hs, hh, hne]
  simp

/-! ### the printing model is idempotent -/

/-- a branch that does not answer `ok` was not taken -/
theorem ok_of_ite {c : Prop} [Decidable c] {r x : UrlRes} {t : String} (h : (if c then r else x) = .ok t)
    (hr : r ≠ .ok t) : ¬ c ∧ x = .ok t := by
  split at h
  · exact absurd h hr
  · exact ⟨‹¬ c›, h⟩

theorem urlString_ok_inv {s t : String} (h : urlString s = .ok t) : ∃ pre path p f,
    splitAuthority (s.toList.takeWhile (· != '#')) = some (pre, path) ∧ hasDoubleSlash path = false ∧
    reescape .path path = some p ∧ reescape .fragment ((s.toList.dropWhile (· != '#')).drop 1) = some f ∧
    t = String.ofList (pre ++ p ++ (if f.isEmpty then [] else '#' :: f)) := by
  unfold urlString at h
  have ⟨_, h⟩ := ok_of_ite h nofun
  have ⟨_, h⟩ := ok_of_ite h nofun
  have ⟨_, h⟩ := ok_of_ite h nofun
  split at h
  · cases h
  · rename_i pre path hsplit
    have ⟨hds, h⟩ := ok_of_ite h nofun
    split at h
    · rename_i p f hp hf
      exact ⟨pre, path, p, f, hsplit, Bool.eq_false_iff.mpr hds, hp, hf, (UrlRes.ok.inj h).symm⟩
    · cases h

theorem urlString_ok_intro {cs u frag pre path p f : List Char} (hu : cs.takeWhile (· != '#') = u)
    (hfrag : (cs.dropWhile (· != '#')).drop 1 = frag)
    (h0 : u.any (fun c => c.toNat < 0x20 || c.toNat == 0x7f) = false) (h1 : u.contains '?' = false)
    (h2 : badEscape u = false) (h2' : badEscape frag = false) (h3 : splitAuthority u = some (pre, path))
    (h4 : hasDoubleSlash path = false) (h5 : reescape .path path = some p) (h6 : reescape .fragment frag = some f) :
    urlString (String.ofList cs) = .ok (String.ofList (pre ++ p ++ (if f.isEmpty then [] else '#' :: f))) := by
  unfold urlString
  simp only [String.toList_ofList, hu, hfrag, h0, h1, h2, h2', h3, h4, h5, h6]
  simp

theorem urlString_idem {s t : String} (h : urlString s = .ok t) : urlString t = .ok t := by
  obtain ⟨pre, path, p, f, hsplit, hds, hp, hf, rfl⟩ := urlString_ok_inv h
  have ⟨okp, esc⟩ := reescape_spec _ _ hp
  have hpc := pctOK_chars okp
  have hdsp : hasDoubleSlash p = false := (esc_hds esc).trans hds
  -- the second parse finds the same authority
  obtain ⟨hprec, hsplit'⟩ : (∀ c ∈ pre, Plain ['#', '?', '%'] c) ∧ splitAuthority (pre ++ p) = some (pre, p) := by
    rcases splitAuthority_inv hsplit with ⟨rfl, rfl, _⟩ | ⟨scheme, host, rfl, hs, hh, hshape, hne⟩
    · exact ⟨nofun, splitAuthority_plain (contains_of_plain hpc (by decide)) hdsp⟩
    · refine ⟨pre_chars hs hh, splitAuthority_auth hs hh ?_ ?_⟩
      · exact hshape.imp (esc_nil_iff esc).mpr (esc_head esc).mpr
      · simpa [List.isEmpty_iff, esc_nil_iff esc] using hne
  have hall : ∀ c ∈ pre ++ p, Plain ['#', '?'] c := fun c hc =>
    (List.mem_append.mp hc).elim (fun hc => (hprec c hc).mono (by decide)) (fun hc => (hpc c hc).mono (by decide))
  -- and cuts the fragment off where it was put on
  have ⟨hu, hfr⟩ := span_until (ch := '#') (b := if f.isEmpty then [] else '#' :: f)
    (fun c hc => (hall c hc).ne (by decide)) (by split <;> simp)
  refine urlString_ok_intro hu (by rw [hfr]; cases f <;> rfl) ?_ (contains_of_plain hall (by decide)) ?_
    (pctOK_badEscape (reescape_spec _ _ hf).1) hsplit' hdsp (reescape_idem hp) (reescape_idem hf)
  · refine List.any_eq_false.mpr fun c hc => ?_
    have := hall c hc
    simp only [Bool.or_eq_true, decide_eq_true_eq, beq_iff_eq]
    omega
  · rw [badEscape_append_nopct fun c hc => (hprec c hc).ne (by decide), pctOK_badEscape okp]
end SpecModel.Codec
