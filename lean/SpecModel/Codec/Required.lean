/-
Members survive decode+encode (the codec side of C19).

For a regular kind (every kind except schema, response, responses, paths, securityScheme, which have hand-written
codecs), a member that is decoded into a field `f` of a struct part `P` and encoded from it:
* is always present in the output when `f` is not `omitempty`;
* when the last member of the input that goes to `f` has a non-null value `v`, the output carries `normFT f.ft v`
  under the field's name unless `omitempty` drops it as empty - in particular a non-empty string is kept as it is.
The part and the field are found by `memberField` in the tables REGENERATED from /repo; `Props/C19` instantiates
the theorem at every member the Swagger 2.0 meta-schema requires.
-/
import SpecModel.Codec.NoDup

namespace SpecModel.Codec
open SpecModel

-- no proof may look inside the generated tables (see Lemmas.lean)
attribute [local irreducible] Gen.structs Gen.kinds

/-! ### one field -/

theorem decodeAll_append (rec : Rec) (ft : FT) (ws : List Json) : ∀ (vs : List Json) (cur : Option Json),
    decodeAll rec ft cur (vs ++ ws) = decodeAll rec ft cur vs >>= fun st => decodeAll rec ft st ws
  | [], _ => rfl
  | v :: vs, cur => by simp only [List.cons_append, decodeAll, bind_assoc, decodeAll_append rec ft ws vs]

theorem decodeField_nonnull {rec : Rec} {ft : FT} {cur st : Option Json} {v : Json} (hv : v ≠ .null)
    (h : decodeField rec ft cur v = .ok st) : ∃ r, normFT rec ft v = .ok r ∧ st = some r := by
  unfold decodeField at h
  split at h
  · exact absurd rfl hv
  · simp only [bind_ok, ite_ok, outOfModel_ok, pure_ok, and_false, false_or] at h
    obtain ⟨r, hr, _, rfl⟩ := h
    exact ⟨r, hr, rfl⟩

theorem encodeField_of_not_omit (f : Field) (st : Option Json) (h : f.omitEmpty = false) :
    ∃ v, encodeField f st = some (f.jsonName, v) := by
  unfold encodeField
  cases st <;> simp [h]

/-- the state of a field is decided by the last member that goes to it, when that member is not `null` -/
theorem fieldState_last {rec : Rec} {all : List Field} {f : Field} {ms : List (String × Json)} {vs : List Json}
    {v : Json} {st : Option Json} (hvals : fieldVals all f.jsonName ms = vs ++ [v]) (hv : v ≠ .null)
    (h : fieldState rec all f ms = .ok st) : ∃ r, normFT rec f.ft v = .ok r ∧ st = some r := by
  simp only [fieldState, hvals, decodeAll_append, decodeAll, bind_ok, pure_ok] at h
  obtain ⟨_, _, _, h, rfl⟩ := h
  exact decodeField_nonnull hv h

/-! ### a struct part -/

theorem normFields_mem {rec : Rec} {all : List Field} : ∀ {fs : List Field} {ms out : List (String × Json)},
    normFields rec all fs ms = .ok out → ∀ {f : Field}, f ∈ fs →
      ∃ st, fieldState rec all f ms = .ok st ∧ ∀ m, encodeField f st = some m → m ∈ out := by
  intro fs ms out h f hf
  obtain ⟨hst, rfl⟩ := normFields_iff.mp h
  obtain ⟨st, hst⟩ := hst f hf
  exact ⟨st, hst, fun m hm => List.mem_filterMap.mpr ⟨f, hf, emit_ok hst ▸ hm⟩⟩

theorem normStruct_mem {rec : Rec} {p : String} {ms b : List (String × Json)}
    (h : normStruct rec (lookupStruct Gen.structs p) (.obj ms) = .ok b) {f : Field} (hf : f ∈ tableOf p) :
    ∃ st, fieldState rec (tableOf p) f ms = .ok st ∧ ∀ m, encodeField f st = some m → m ∈ b := by
  simp only [normStruct, structMembers, bind_ok, pure_ok, exists_eq_left'] at h
  exact normFields_mem h hf

/-! ### the parts of a regular kind -/

theorem normParts_mem {rec : Rec} {j : Json} : ∀ {ps : List String} {bs : List (List (String × Json))},
    normParts rec j ps = .ok bs → ∀ {p : String}, p ∈ ps → ∃ b ∈ bs, normPart rec p j = .ok b := by
  intro ps
  induction ps with
  | nil => intro _ _ _ hp; cases hp
  | cons q qs ih =>
    intro bs h p hp
    simp only [normParts, bind_ok, pure_ok] at h
    obtain ⟨b, hb, bs', hbs', rfl⟩ := h
    rcases List.mem_cons.mp hp with rfl | hp
    · exact ⟨b, List.mem_cons_self, hb⟩
    · obtain ⟨b', hb', hn⟩ := ih hbs' hp
      exact ⟨b', List.mem_cons_of_mem _ hb', hn⟩

/-- the fields a part encodes, as far as this file follows them: plain struct parts, and `OperationProps` without
its `security` member (which has an encoder of its own) -/
def partFields (p : String) : List Field :=
  if p == "VendorExtensible" || p == "Refable" then []
  else if p == "OperationProps" then (tableOf p).filter (·.jsonName != "security")
  else tableOf p

theorem mem_partFields {p : String} {f : Field} (h : f ∈ partFields p) :
    p ≠ "VendorExtensible" ∧ p ≠ "Refable" ∧ f ∈ tableOf p ∧ (p = "OperationProps" → f.jsonName ≠ "security") := by
  unfold partFields at h
  split at h
  · cases h
  next hp =>
  simp only [Bool.or_eq_true, beq_iff_eq, not_or] at hp
  refine ⟨hp.1, hp.2, ?_⟩
  split at h
  · have ⟨h1, h2⟩ := List.mem_filter.mp h
    exact ⟨h1, fun _ => by simpa using h2⟩
  next hop => exact ⟨h, fun e => absurd (beq_iff_eq.mpr e) hop⟩

theorem normPart_mem {rec : Rec} {p : String} {ms b : List (String × Json)} (h : normPart rec p (.obj ms) = .ok b)
    {f : Field} (hf : f ∈ partFields p) :
    ∃ st, fieldState rec (tableOf p) f ms = .ok st ∧ ∀ m, encodeField f st = some m → m ∈ b := by
  obtain ⟨h1, h2, hf, hsec⟩ := mem_partFields hf
  rw [normPart, if_neg (mt beq_iff_eq.mp h1), if_neg (mt beq_iff_eq.mp h2)] at h
  split at h
  next hop =>
    -- `OperationProps`: the other fields follow the `security` member
    cases beq_iff_eq.mp hop
    unfold normOperationProps at h
    generalize tableOf "OperationProps" = props at h hf ⊢
    -- the two leading binds are taken apart by hand: `simp` across the join point of this `do` block is slow for the kernel
    obtain ⟨_, hms, h⟩ := bind_ok.mp h
    cases pure_ok.mp hms
    obtain ⟨others, ho, h⟩ := bind_ok.mp h
    obtain ⟨st, hst, hmem⟩ := normFields_mem ho (List.mem_filter.mpr ⟨hf, by simpa using hsec rfl⟩)
    refine ⟨st, hst, fun m hm => ?_⟩
    split at h <;> simp only [bind_ok, pure_ok] at h
    · obtain ⟨_, _, _, rfl, rfl⟩ := h; exact List.mem_append_right _ (hmem m hm)
    · obtain ⟨_, rfl, rfl⟩ := h; exact List.mem_append_right _ (hmem m hm)
  · exact normStruct_mem h hf

/-! ### where a member of a regular kind lives -/

def isSpecialKind (k : String) : Bool :=
  k == "schema" || k == "response" || k == "responses" || k == "paths" || k == "securityScheme"

/-- the parts of a regular kind that are decoded from the document and encoded again -/
def codecParts (ki : KindInfo) : List String :=
  if ki.marshalShape == "reflect" then [ki.goType] else liveParts ki

/-- the part and the field a member name of a regular kind is encoded from (searched in the generated tables) -/
def memberField (k n : String) : Option (String × Field) :=
  if isSpecialKind k then none
  else match lookupKind Gen.kinds k with
    | none => none
    | some ki => ((codecParts ki).flatMap fun p => (partFields p).map fun f => (p, f)).find? (·.2.jsonName == n)

theorem memberField_sound {k n P : String} {f : Field} (h : memberField k n = some (P, f)) :
    isSpecialKind k = false ∧ ∃ ki, lookupKind Gen.kinds k = some ki ∧ P ∈ codecParts ki ∧ f ∈ partFields P ∧
      f.jsonName = n := by
  unfold memberField at h
  split at h
  · cases h
  next hs =>
  split at h
  · cases h
  next ki hk =>
  obtain ⟨p, hp, g, hg, e⟩ : ∃ p ∈ codecParts ki, ∃ g ∈ partFields p, (p, g) = (P, f) := by
    simpa only [List.mem_flatMap, List.mem_map] using List.mem_of_find?_eq_some h
  cases e
  exact ⟨Bool.eq_false_iff.mpr hs, ki, hk, hp, hg, by simpa using List.find?_some h⟩

/-- **a member of a regular kind survives decode+encode** -/
theorem normKind_member {rec : Rec} {k n P : String} {f : Field} (hm : memberField k n = some (P, f))
    {ms : List (String × Json)} {j' : Json} (h : normKind rec k (.obj ms) = .ok j') :
    ∃ out, j' = .obj out ∧ ∃ st, fieldState rec (tableOf P) f ms = .ok st ∧
      ∀ m, encodeField f st = some m → m ∈ out := by
  obtain ⟨hs, ki, hk, hP, hf, _⟩ := memberField_sound hm
  rw [normKind_regular (by simpa [isSpecialKind, and_assoc] using hs) hk] at h
  unfold codecParts at hP
  split at h
  next hr =>
    -- no custom codec: the Go type is a plain struct
    rw [if_pos hr] at hP
    cases List.mem_singleton.mp hP
    simp only [bind_ok, pure_ok] at h
    obtain ⟨out, hout, rfl⟩ := h
    exact ⟨out, rfl, normStruct_mem hout (mem_partFields hf).2.2.1⟩
  next hr =>
    rw [if_neg hr] at hP
    simp only [normConcatKind, bind_ok, pure_ok, concatMembers_eq] at h
    obtain ⟨_, _, bs, hbs, _, _, rfl⟩ := h
    obtain ⟨b, hb, hnp⟩ := normParts_mem hbs hP
    obtain ⟨st, hst, hmem⟩ := normPart_mem hnp hf
    exact ⟨_, rfl, st, hst, fun m hm' => List.mem_flatten.mpr ⟨b, hb, hmem m hm'⟩⟩

/-! ### response (hand-written codec) -/

/-- **response**: unless it is given by reference (a non-empty `$ref` in the output), the encoding of a response
carries a `description` member, whatever the input object was; `hd` is a side condition on the generated table -/
theorem response_description (hd : ∃ f ∈ tableOf "ResponseProps", f.jsonName = "description" ∧ f.omitEmpty = false)
    {rec : Rec} {ms : List (String × Json)} {j' : Json} (h : normKind rec "response" (.obj ms) = .ok j') :
    ∃ out, j' = .obj out ∧ ((∀ t, ("$ref", Json.str t) ∈ out → t = "") → ∃ r, ("description", r) ∈ out) := by
  rw [normKind_response, normResponse_unfold] at h
  generalize tableOf "ResponseProps" = props at h hd
  simp only [structMembers, bind_ok, pure_ok, ite_ok, concatMembers_eq] at h
  obtain ⟨_, rfl, full, hfull, b2, hb2, b3, _, h⟩ := h
  simp only [normRefable, bind_ok] at hb2
  obtain ⟨_, _, hb2⟩ := hb2
  obtain ⟨href, lit, _, rfl⟩ | ⟨_, rfl⟩ := h
  · -- given by reference: the `Refable` part is a non-empty `$ref`
    refine ⟨_, rfl, fun hno => ?_⟩
    obtain rfl | ⟨t, rfl⟩ := refOfMap_shape hb2
    · cases href
    · cases hno t (by simp)
      cases href
  · obtain ⟨f, hf, hn, ho⟩ := hd
    obtain ⟨st, _, hmem⟩ := normFields_mem hfull hf
    obtain ⟨r, hr⟩ := encodeField_of_not_omit f st ho
    exact ⟨_, rfl, fun _ => ⟨r, List.mem_flatten.mpr ⟨full, List.mem_cons_self, hn ▸ hmem _ hr⟩⟩⟩

end SpecModel.Codec
