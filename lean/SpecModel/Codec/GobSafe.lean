/-
C14 for whole documents: gob transport (as modelled by `gobJ`) changes NOTHING in a document that has no empty
array and no member whose value is the number 0, for every kind, at any depth.  The two exclusions are exactly
the two known findings (K-C14-2: an empty array in a free-form payload or an empty `items` tuple comes back
`null`; K-C14-1: a pointer-held numeric validation equal to 0 disappears); the hypothesis is a little wider than
necessary (it also excludes `"default": 0`, which survives), which keeps it kind-agnostic and decidable.
-/
import SpecModel.Codec.Gob

namespace SpecModel.Codec
open SpecModel

-- no proof may look inside the generated tables (see Lemmas.lean)
attribute [local irreducible] Gen.structs Gen.kinds

mutual
  /-- no member, at any depth, whose value is the number 0 -/
  def ZeroFree : Json → Prop
    | .arr xs => ZeroFreeL xs
    | .obj ms => ZeroFreeM ms
    | _ => True
  def ZeroFreeL : List Json → Prop
    | [] => True
    | x :: xs => ZeroFree x ∧ ZeroFreeL xs
  def ZeroFreeM : List (String × Json) → Prop
    | [] => True
    | (_, v) :: rest => v ≠ .num 0 ∧ ZeroFree v ∧ ZeroFreeM rest
end

def GobSafe (j : Json) : Prop := NoEmptyArr j ∧ ZeroFree j

/-! The predicates are structurally recursive, so `NoEmptyArr (.arr (x :: xs))` *is* `NoEmptyArr x ∧ NoEmptyArrL xs`,
`ZeroFree (.arr xs)` *is* `ZeroFreeL xs`, and so on: the proofs below take the components apart directly. -/

theorem gobSafe_of_mem {xs : List Json} (h1 : NoEmptyArrL xs) (h2 : ZeroFreeL xs) : ∀ x ∈ xs, GobSafe x := by
  induction xs with
  | nil => nofun
  | cons a rest ih => exact List.forall_mem_cons.mpr ⟨⟨h1.1, h2.1⟩, ih h1.2 h2.2⟩

theorem noEmptyArrL_of_arr {xs : List Json} (h : NoEmptyArr (.arr xs)) : NoEmptyArrL xs := by
  cases xs with
  | nil => exact h.elim
  | cons _ _ => exact h

theorem gobSafe_arr {xs : List Json} (h : GobSafe (.arr xs)) : ∀ x ∈ xs, GobSafe x :=
  gobSafe_of_mem (noEmptyArrL_of_arr h.1) h.2

theorem gobSafe_obj : ∀ {ms : List (String × Json)}, GobSafe (.obj ms) → ∀ m ∈ ms, GobSafe m.2 ∧ m.2 ≠ .num 0
  | [], _ => nofun
  | _ :: _, h => List.forall_mem_cons.mpr ⟨⟨⟨h.1.1, h.2.2.1⟩, h.2.1⟩, gobSafe_obj ⟨h.1.2, h.2.2.2⟩⟩

theorem map_id_on {α : Type} {f : α → α} {xs : List α} (h : ∀ x ∈ xs, f x = x) : xs.map f = xs :=
  (List.map_congr_left (g := id) h).trans (List.map_id xs)

theorem filterMap_id_on {α : Type} {f : α → Option α} {xs : List α} (h : ∀ x ∈ xs, f x = some x) : xs.filterMap f = xs := by
  induction xs with
  | nil => rfl
  | cons a rest ih => simp [h a (by simp), ih (fun x hx => h x (by simp [hx]))]

def GRecSafe (rec : GRec) : Prop := ∀ t v, GobSafe v → rec t v = v

theorem map_safe {rec : GRec} (hr : GRecSafe rec) (t : Target) {xs : List Json} (hs : GobSafe (.arr xs)) :
    xs.map (rec t) = xs :=
  map_id_on fun x hx => hr t x (gobSafe_arr hs x hx)

theorem mapVals_safe {rec : GRec} (hr : GRecSafe rec) (t : Target) {ms : List (String × Json)}
    (hs : GobSafe (.obj ms)) : mapVals (rec t) ms = ms :=
  map_id_on fun m hm => by rw [hr t m.2 (gobSafe_obj hs m hm).1]

/-- arm by arm, in the order of `gobFT` -/
theorem gobFT_safe {rec : GRec} (hr : GRecSafe rec) (ft : FT) (v : Json) (hs : GobSafe v) (hz : v ≠ .num 0) :
    gobFT rec ft v = some v := by
  unfold gobFT
  split
  · exact absurd rfl hz
  · exact absurd rfl hz
  · rw [gobAny_of_noEmptyArr _ hs.1]
  · rw [gobAnyList_of_noEmptyArr _ (noEmptyArrL_of_arr hs.1)]
  · rw [gobAnyMembers_of_noEmptyArr _ hs.1]
  · rw [hr _ _ hs]
  · rw [hr _ _ hs]
  · rw [map_safe hr _ hs]
  · rw [mapVals_safe hr _ hs]
  · rw [hr _ _ hs]
  · rw [mapVals_safe hr _ hs]
  · rw [hr _ _ hs]
  · rw [mapVals_safe hr _ hs]
  · rfl

theorem gobMember_safe {rec : GRec} (hr : GRecSafe rec) (k : String) (fs : List Field) (m : String × Json)
    (hs : GobSafe m.2) (hz : m.2 ≠ .num 0) : gobMember rec k fs m = some m := by
  unfold gobMember
  simp only [gobAny_of_noEmptyArr _ hs.1, hr _ _ hs, gobFT_safe hr _ _ hs hz, Option.map_some, ite_self]
  split
  · rfl
  · split <;> rfl

theorem gobKind_safe {rec : GRec} (hr : GRecSafe rec) (k : String) (j : Json) (hs : GobSafe j) : gobKind rec k j = j := by
  unfold gobKind
  split
  · rw [filterMap_id_on fun m hm => gobMember_safe hr k _ m (gobSafe_obj hs m hm).1 (gobSafe_obj hs m hm).2]
  · rfl

theorem gobNamed_safe {rec : GRec} (hr : GRecSafe rec) (n : String) (j : Json) (hs : GobSafe j) : gobNamed rec n j = j := by
  unfold gobNamed
  split
  · split
    · rw [mapVals_safe hr _ hs]
    · exact hr _ _ hs
  · exact hs.1.elim
  · split
    · rw [map_safe hr _ hs]
    · rfl
  · rfl

theorem gobF_safe : ∀ n, GRecSafe (gobF n)
  | 0, _, _, _ => rfl
  | n + 1, .kind k, v, hs => gobKind_safe (gobF_safe n) k v hs
  | n + 1, .named nm, v, hs => gobNamed_safe (gobF_safe n) nm v hs

/-- **gob transport preserves every safe document, whatever its kind** -/
theorem gobJ_safe (k : String) (j : Json) (hs : GobSafe j) : gobJ k j = j := gobF_safe _ _ _ hs


/-! ### an executable test for `GobSafe` (run by the driver on the implementation's encodings) -/

def isZeroNum : Json → Bool
  | .num n => n == 0
  | _ => false

mutual
  def gobSafeB : Json → Bool
    | .arr [] => false
    | .arr (x :: xs) => gobSafeB x && gobSafeLB xs
    | .obj ms => gobSafeMB ms
    | _ => true
  def gobSafeLB : List Json → Bool
    | [] => true
    | x :: xs => gobSafeB x && gobSafeLB xs
  def gobSafeMB : List (String × Json) → Bool
    | [] => true
    | (_, v) :: rest => !isZeroNum v && gobSafeB v && gobSafeMB rest
end

theorem isZeroNum_false {v : Json} (h : isZeroNum v = false) : v ≠ .num 0 := by
  intro hv; subst hv; simp [isZeroNum] at h

mutual
  theorem gobSafeB_sound : ∀ (j : Json), gobSafeB j = true → GobSafe j
    | .arr [], h => by simp [gobSafeB] at h
    | .arr (x :: xs), h => gobSafeLB_sound (x :: xs) h
    | .obj ms, h => gobSafeMB_sound ms h
    | .null, _ | .bool _, _ | .num _, _ | .str _, _ => ⟨trivial, trivial⟩
  theorem gobSafeLB_sound : ∀ (xs : List Json), gobSafeLB xs = true → NoEmptyArrL xs ∧ ZeroFreeL xs
    | [], _ => ⟨trivial, trivial⟩
    | x :: xs, h => by
        rw [gobSafeLB, Bool.and_eq_true] at h
        have h1 := gobSafeB_sound x h.1
        have h2 := gobSafeLB_sound xs h.2
        exact ⟨⟨h1.1, h2.1⟩, h1.2, h2.2⟩
  theorem gobSafeMB_sound : ∀ (ms : List (String × Json)), gobSafeMB ms = true → NoEmptyArrM ms ∧ ZeroFreeM ms
    | [], _ => ⟨trivial, trivial⟩
    | (k, v) :: rest, h => by
        rw [gobSafeMB, Bool.and_eq_true, Bool.and_eq_true, Bool.not_eq_true'] at h
        have h1 := gobSafeB_sound v h.1.2
        have h2 := gobSafeMB_sound rest h.2
        exact ⟨⟨h1.1, h2.1⟩, isZeroNum_false h.1.1, h1.2, h2.2⟩
end

end SpecModel.Codec
