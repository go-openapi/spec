/-
`Clean`: the kind-agnostic, decidable condition on a document under which the codec reads every member back into the
field that wrote it — no member holds `null`, no member name is a case variant of a keyword or an upper-case `X-`
spelling of the extension prefix, every number is exactly representable as a float64.  C07 assumes it of the first
output; C01 (`Tidy`) shares the condition on names.  With it, member ↦ field matching is plain equality of names
(`goesTo_eq`).  `cleanB` is the executable test the driver runs.
-/
import SpecModel.Codec.NoDup

namespace SpecModel.Codec
open SpecModel

-- no proof may look inside the generated tables (see Lemmas.lean)
attribute [local irreducible] Gen.structs Gen.kinds

/-! ### the hypothesis on the output -/

/-- member names of all generated struct tables -/
def keywordList : List String := Gen.structs.flatMap fun e => tableNames e.2

/-- `k` is not a case variant of a keyword: whatever keyword it folds onto, it IS that keyword; and if it is a
vendor extension (`strings.HasPrefix(strings.ToLower(k), "x-")`) it is spelled with a lower-case `x-`
(`Responses.UnmarshalJSON` tests the prefix case-sensitively and would read `X-…` as a response) -/
def NameOK (k : String) : Prop :=
  (∀ n ∈ keywordList, foldName k = foldName n → k = n) ∧ (isExtKey k = true → hasXPrefix k = true)

mutual
  def Clean : Json → Prop
    | .num n => n.natAbs ≤ floatExact
    | .arr xs => CleanL xs
    | .obj ms => CleanM ms
    | _ => True
  def CleanL : List Json → Prop
    | [] => True
    | x :: xs => Clean x ∧ CleanL xs
  def CleanM : List (String × Json) → Prop
    | [] => True
    | (k, v) :: rest => NameOK k ∧ v ≠ .null ∧ Clean v ∧ CleanM rest
end

theorem cleanM_iff {ms : List (String × Json)} :
    CleanM ms ↔ ∀ m ∈ ms, NameOK m.1 ∧ m.2 ≠ .null ∧ Clean m.2 :=
  conj_iff_forall_mem trivial fun ⟨_, _⟩ _ =>
    ⟨fun ⟨a, b, c, d⟩ => ⟨⟨a, b, c⟩, d⟩, fun ⟨⟨a, b, c⟩, d⟩ => ⟨a, b, c, d⟩⟩

theorem cleanL_iff {xs : List Json} : CleanL xs ↔ ∀ x ∈ xs, Clean x :=
  conj_iff_forall_mem trivial fun _ _ => Iff.rfl

theorem clean_arr {ys : List Json} (h : Clean (.arr ys)) : ∀ y ∈ ys, Clean y := cleanL_iff.mp h

theorem cleanM_names {out : List (String × Json)} (h : CleanM out) : ∀ m ∈ out, NameOK m.1 :=
  fun m hm => (cleanM_iff.mp h m hm).1

theorem cleanM_vals {out : List (String × Json)} (h : CleanM out) : ∀ m ∈ out, Clean m.2 ∧ m.2 ≠ .null :=
  fun m hm => ⟨(cleanM_iff.mp h m hm).2.2, (cleanM_iff.mp h m hm).2.1⟩

/-! ### member ↦ field on clean names -/

theorem goesTo_eq {all : List Field} (hsub : ∀ f ∈ all, f.jsonName ∈ keywordList) {k name : String}
    (hk : NameOK k) (hn : name ∈ all.map (·.jsonName)) : goesTo all name k = (k == name) := by
  unfold goesTo matchField
  cases h1 : all.find? (·.jsonName == k) with
  | some f => have e := List.find?_some h1; exact congrArg (· == name) (beq_iff_eq.mp e)
  | none =>
    -- no field is called `k`: so `k` is not `name`, and no field folds onto `k` either
    have hnone : ∀ f ∈ all, f.jsonName ≠ k := fun f hf => by simpa using List.find?_eq_none.mp h1 f hf
    obtain ⟨g, hg, rfl⟩ := List.mem_map.mp hn
    cases h2 : all.find? (fun f => foldName f.jsonName == foldName k) with
    | some f =>
      have hf := List.mem_of_find?_eq_some h2
      have e := List.find?_some h2
      exact absurd (hk.1 _ (hsub f hf) (beq_iff_eq.mp e).symm).symm (hnone f hf)
    | none => exact (beq_eq_false_iff_ne.mpr (hnone g hg).symm).symm

theorem fieldVals_eq {all : List Field} (hsub : ∀ f ∈ all, f.jsonName ∈ keywordList) {name : String}
    (hn : name ∈ all.map (·.jsonName)) {out : List (String × Json)} (hk : ∀ m ∈ out, NameOK m.1) :
    fieldVals all name out = (out.filter (·.1 == name)).map (·.2) :=
  congrArg (List.map Prod.snd) (List.filter_congr fun m hm => goesTo_eq hsub (hk m hm) hn)

theorem lookupStruct_keywords (n : String) : ∀ f ∈ visible (lookupStruct Gen.structs n), f.jsonName ∈ keywordList := by
  intro f hf
  rcases lookupStruct_mem Gen.structs n with h | ⟨e, he, h⟩ <;> rw [h] at hf
  · cases hf
  · exact List.mem_flatMap.mpr ⟨e, he, List.mem_map.mpr ⟨f, hf, rfl⟩⟩

theorem schemaTables_keywords :
    ∀ f ∈ tableOf "SchemaProps" ++ tableOf "SwaggerSchemaProps", f.jsonName ∈ keywordList :=
  fun f hf => (List.mem_append.mp hf).elim (lookupStruct_keywords _ f) (lookupStruct_keywords _ f)

/-! ### the executable test -/

def nameOKB (k : String) : Bool :=
  keywordList.all (fun n => foldName k != foldName n || k == n) && (!isExtKey k || hasXPrefix k)

def notNull : Json → Bool
  | .null => false
  | _ => true

mutual
  def cleanB : Json → Bool
    | .num n => decide (n.natAbs ≤ floatExact)
    | .arr xs => cleanLB xs
    | .obj ms => cleanMB ms
    | _ => true
  def cleanLB : List Json → Bool
    | [] => true
    | x :: xs => cleanB x && cleanLB xs
  def cleanMB : List (String × Json) → Bool
    | [] => true
    | (k, v) :: rest => nameOKB k && notNull v && cleanB v && cleanMB rest
end

theorem nameOKB_sound {k : String} (h : nameOKB k = true) : NameOK k := by
  simp only [nameOKB, Bool.and_eq_true, List.all_eq_true, Bool.or_eq_true, bne_iff_ne, ne_eq, beq_iff_eq,
    Bool.not_eq_true'] at h
  refine ⟨fun n hn hf => (h.1 n hn).resolve_left fun h1 => h1 hf, fun hx => h.2.resolve_left fun h1 => ?_⟩
  rw [hx] at h1; cases h1

theorem notNull_sound {v : Json} (h : notNull v = true) : v ≠ .null := fun hv => by subst hv; cases h

mutual
  theorem cleanB_sound : ∀ (j : Json), cleanB j = true → Clean j
    | .num n, h => of_decide_eq_true (p := n.natAbs ≤ floatExact) h
    | .arr xs, h => cleanLB_sound xs h
    | .obj ms, h => cleanMB_sound ms h
    | .null, _ | .bool _, _ | .str _, _ => trivial
  theorem cleanLB_sound : ∀ (xs : List Json), cleanLB xs = true → CleanL xs
    | [], _ => trivial
    | x :: xs, h =>
      have ⟨h1, h2⟩ := Bool.and_eq_true_iff.mp h
      ⟨cleanB_sound x h1, cleanLB_sound xs h2⟩
  theorem cleanMB_sound : ∀ (ms : List (String × Json)), cleanMB ms = true → CleanM ms
    | [], _ => trivial
    | (k, v) :: rest, h => by
      simp only [cleanMB, Bool.and_eq_true] at h
      exact ⟨nameOKB_sound h.1.1.1, notNull_sound h.1.1.2, cleanB_sound v h.1.2, cleanMB_sound rest h.2⟩
end

end SpecModel.Codec
