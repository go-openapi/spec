/-
C06, whole documents: whatever `norm K` (decode as kind K, then encode) returns has no object, at any depth,
that carries the same member name twice.

Structure of the proof: `ND` (no duplicate member anywhere) is established for every building block of the
codec model — Go maps (strictly increasing keys), free-form payloads, the reflective struct codec (member names
are a sublist of the table's names), the hand-written kinds — under the hypothesis that the recursive codec `rec`
only returns `ND` values, and closed by induction on the fuel of `normF`.  What a kind returns is described once,
as a concatenation of parts each of which stays within its descriptor (`ConfAll`); `ND`, and later the fact that
every member is claimed by a part (C15) and re-read by the part that wrote it (C07), are read off that.
The facts about the GENERATED tables that the argument needs (names of a table pairwise distinct, no name looks
like an extension, no name is `$ref`/`$schema`, parts of a kind pairwise disjoint) are `decide` side conditions
collected in `TablesOK`, discharged in `Props/C06.lean`.
-/
import SpecModel.Codec.SortLemmas

namespace SpecModel.Codec
open SpecModel

-- no proof may look inside the generated tables (see Lemmas.lean)
attribute [local irreducible] Gen.structs Gen.kinds

mutual
  /-- no object, at any depth, has two members of the same name -/
  def ND : Json → Prop
    | .obj ms => (ms.map (·.1)).Nodup ∧ NDM ms
    | .arr xs => NDL xs
    | _ => True
  def NDL : List Json → Prop
    | [] => True
    | x :: xs => ND x ∧ NDL xs
  def NDM : List (String × Json) → Prop
    | [] => True
    | (_, x) :: xs => ND x ∧ NDM xs
end

theorem ndm_iff {ms : List (String × Json)} : NDM ms ↔ ∀ m ∈ ms, ND m.2 :=
  conj_iff_forall_mem trivial fun ⟨_, _⟩ _ => Iff.rfl

theorem ndl_iff {xs : List Json} : NDL xs ↔ ∀ x ∈ xs, ND x :=
  conj_iff_forall_mem trivial fun _ _ => Iff.rfl

theorem nd_obj {ms : List (String × Json)} (h1 : (keysOf ms).Nodup) (h2 : NDM ms) : ND (.obj ms) := ⟨h1, h2⟩

theorem ndm_append {a b : List (String × Json)} (ha : NDM a) (hb : NDM b) : NDM (a ++ b) := by
  rw [ndm_iff] at *
  exact fun m hm => (List.mem_append.mp hm).elim (ha m) (hb m)

theorem ndm_filter {a : List (String × Json)} (p : String × Json → Bool) (ha : NDM a) : NDM (a.filter p) :=
  ndm_iff.mpr fun m hm => ndm_iff.mp ha m (List.mem_filter.mp hm).1

theorem perm_ndm {a b : List (String × Json)} (h : a.Perm b) (hb : NDM b) : NDM a :=
  ndm_iff.mpr fun m hm => ndm_iff.mp hb m (h.mem_iff.mp hm)

theorem nd_goMap {ys : List (String × Json)} (h : KeysSorted ys ∧ NDM ys) : ND (.obj ys) :=
  nd_obj (keysSorted_nodup h.1) h.2

/-! ### Go maps and free-form payloads -/

theorem nd_of_goAny : ∀ j : Json, GoAny j → ND j := by
  intro j
  induction j using Json.induction with
  | arr xs ih => exact fun h => ndl_iff.mpr fun x hx => ih x hx (goAnyL_iff.mp h x hx)
  | obj ms ih => exact fun h => nd_goMap ⟨h.1, ndm_iff.mpr fun m hm => ih m hm (goAnyM_iff.mp h.2 m hm)⟩
  | _ => exact fun _ => trivial

theorem normAny_nd {j j' : Json} (h : normAny j = .ok j') : ND j' := nd_of_goAny j' (normAny_goAny j j' h)

/-! ### element-wise codecs -/

theorem mapR_nd {f : Json → R Json} (hf : ∀ x y, f x = .ok y → ND y) {xs ys : List Json}
    (h : mapR f xs = .ok ys) : NDL ys :=
  ndl_iff.mpr fun y hy => let ⟨x, _, hxy⟩ := mapR_mem h y hy; hf x y hxy

theorem mapMembersR_nd {f : Json → R Json} (hf : ∀ x y, f x = .ok y → ND y) {ms ys : List (String × Json)}
    (h : mapMembersR f ms = .ok ys) : KeysSorted ys ∧ NDM ys :=
  have ⟨h1, h2⟩ := mapMembersR_mem h
  ⟨h1, ndm_iff.mpr fun m hm => let ⟨x, _, _, hxm⟩ := h2 m hm; hf x.2 m.2 hxm⟩

theorem strElem_isStr {x y : Json} (h : strElem x = .ok y) : ∃ s, y = .str s := by
  cases x <;> simp only [strElem, pure_ok, goError_ok] at h <;> exact ⟨_, h.symm⟩

theorem strElem_nd {x y : Json} (h : strElem x = .ok y) : ND y := by
  obtain ⟨s, rfl⟩ := strElem_isStr h; trivial

theorem strsVal_nd {x y : Json} (h : strsVal x = .ok y) : ND y := by
  cases x <;> simp only [strsVal, bind_ok, pure_ok, goError_ok] at h
  · subst h; trivial
  · obtain ⟨ys, hys, rfl⟩ := h; exact mapR_nd (fun _ _ => strElem_nd) hys

theorem secReqVal_nd {x y : Json} (h : secReqVal x = .ok y) : ND y := by
  cases x <;> simp only [secReqVal, bind_ok, pure_ok, goError_ok] at h
  · subst h; trivial
  · obtain ⟨ys, hys, rfl⟩ := h; exact nd_goMap (mapMembersR_nd (fun _ _ => strsVal_nd) hys)

/-! ### one field -/

def RecND (rec : Rec) : Prop := ∀ t j j', rec t j = .ok j' → ND j'

theorem ptrTo_nd {rec : Rec} (hr : RecND rec) (t : Target) {j j' : Json} (h : ptrTo rec t j = .ok j') : ND j' := by
  cases j
  case null => cases pure_ok.mp h; trivial
  all_goals exact hr t _ _ h

theorem normFT_nd {rec : Rec} (hr : RecND rec) (ft : FT) (v r : Json) (h : normFT rec ft v = .ok r) : ND r := by
  unfold normFT at h
  split at h <;> try simp only [bind_ok, pure_ok, goError_ok, outOfModel_ok, normAnyList_eq_map,
    normAnyMembers_eq_map] at h
  -- what is left are the rows of `normFT` that do not fail, in the order of the table
  · subst h; trivial
  · subst h; trivial
  · cases normInt64_ok h; trivial
  · cases normInt64_ok h; trivial
  · cases (normFloat_ok h).1; trivial
  · cases (normFloat_ok h).1; trivial
  · exact normAny_nd h
  · exact strsVal_nd h
  · obtain ⟨ys, hys, rfl⟩ := h; exact mapR_nd (fun _ _ => normAny_nd) hys
  · obtain ⟨ys, hys, rfl⟩ := h; exact nd_goMap (mapMembersR_nd (fun _ _ => strElem_nd) hys)
  · obtain ⟨ys, hys, rfl⟩ := h; exact nd_goMap (mapMembersR_nd (fun _ _ => normAny_nd) hys)
  · obtain ⟨ys, hys, rfl⟩ := h; exact mapR_nd (fun _ _ => secReqVal_nd) hys
  · exact hr _ _ _ h
  · exact hr _ _ _ h
  · obtain ⟨ys, hys, rfl⟩ := h; exact mapR_nd (hr _) hys
  · obtain ⟨ys, hys, rfl⟩ := h; exact nd_goMap (mapMembersR_nd (hr _) hys)
  · exact hr _ _ _ h
  · obtain ⟨ys, hys, rfl⟩ := h; exact nd_goMap (mapMembersR_nd (hr _) hys)
  · exact hr _ _ _ h
  · obtain ⟨ys, hys, rfl⟩ := h; exact nd_goMap (mapMembersR_nd (fun _ _ => ptrTo_nd hr _) hys)

/-- the state of a field after decoding: zero, or an image of the field codec -/
def StImg (rec : Rec) (ft : FT) : Option Json → Prop
  | none => True
  | some j => (∃ v, normFT rec ft v = .ok j) ∨ (∃ k, ft = .valKind k ∧ rec (.kind k) .null = .ok j)

theorem decodeField_img {rec : Rec} {ft : FT} {cur st : Option Json} {v : Json}
    (hc : StImg rec ft cur) (h : decodeField rec ft cur v = .ok st) : StImg rec ft st := by
  unfold decodeField at h
  split at h
  · split at h <;> simp only [bind_ok, pure_ok] at h
    · obtain ⟨r, hr', rfl⟩ := h; exact .inr ⟨_, rfl, hr'⟩
    · subst h; split
      · exact hc
      · trivial
  · simp only [bind_ok, ite_ok, outOfModel_ok, pure_ok, and_false, false_or] at h
    obtain ⟨r, hr', -, rfl⟩ := h
    exact .inl ⟨_, hr'⟩

/-- the invariant of the decode loop, from which both `ND` (here) and the fixed-point property (C07) are read off -/
theorem decodeAll_img {rec : Rec} {ft : FT} {vs : List Json} {cur st : Option Json} (hc : StImg rec ft cur)
    (h : decodeAll rec ft cur vs = .ok st) : StImg rec ft st := by
  induction vs generalizing cur with
  | nil => cases pure_ok.mp h; exact hc
  | cons v rest ih =>
    obtain ⟨st', hst', h⟩ := bind_ok.mp h
    exact ih (decodeField_img hc hst') h

theorem fieldState_img {rec : Rec} (all : List Field) (f : Field) (ms : List (String × Json))
    (st : Option Json) (h : fieldState rec all f ms = .ok st) : StImg rec f.ft st :=
  decodeAll_img (cur := none) trivial h

theorem fieldState_nd {rec : Rec} (hr : RecND rec) {all : List Field} {f : Field} {ms : List (String × Json)}
    {j : Json} (h : fieldState rec all f ms = .ok (some j)) : ND j := by
  obtain ⟨v, hv⟩ | ⟨k, -, hv⟩ := fieldState_img all f ms _ h
  · exact normFT_nd hr _ v j hv
  · exact hr _ _ _ hv

theorem encodeField_key {f : Field} {st : Option Json} {m : String × Json} (h : encodeField f st = some m) :
    m.1 = f.jsonName := by
  unfold encodeField at h
  cases st <;> simp only at h <;> split at h <;> cases h <;> rfl

theorem encodeField_nd {f : Field} {st : Option Json} {m : String × Json} (hs : ∀ j, st = some j → ND j)
    (h : encodeField f st = some m) : ND m.2 := by
  unfold encodeField at h
  cases st <;> simp only at h <;> split at h <;> cases h
  · unfold zeroEnc; split <;> trivial
  · exact hs _ rfl

/-- the member field `f` emits once `ms` has been decoded (nothing if decoding fails) -/
def emit (rec : Rec) (all : List Field) (ms : List (String × Json)) (f : Field) : Option (String × Json) :=
  match fieldState rec all f ms with
  | .ok st => encodeField f st
  | .error _ => none

theorem emit_ok {rec : Rec} {all : List Field} {ms : List (String × Json)} {f : Field} {st : Option Json}
    (h : fieldState rec all f ms = .ok st) : emit rec all ms f = encodeField f st := by
  simp only [emit, h]

theorem emit_key {rec : Rec} {all : List Field} {ms : List (String × Json)} {f : Field} {m : String × Json}
    (h : emit rec all ms f = some m) : m.1 = f.jsonName := by
  unfold emit at h
  split at h
  · exact encodeField_key h
  · cases h

theorem normFields_iff {rec : Rec} {all : List Field} {ms : List (String × Json)} :
    ∀ {fs : List Field} {b : List (String × Json)}, normFields rec all fs ms = .ok b ↔
      (∀ f ∈ fs, ∃ st, fieldState rec all f ms = .ok st) ∧ b = fs.filterMap (emit rec all ms)
  | [], b => by simpa [normFields] using pure_ok.trans eq_comm
  | f :: fs, b => by
    simp only [normFields, bind_ok, pure_ok, normFields_iff (fs := fs), List.forall_mem_cons, List.filterMap_cons]
    constructor
    · rintro ⟨st, hst, _, ⟨hall, rfl⟩, rfl⟩
      exact ⟨⟨⟨st, hst⟩, hall⟩, by rw [emit_ok hst]; cases encodeField f st <;> rfl⟩
    · rintro ⟨⟨⟨st, hst⟩, hall⟩, rfl⟩
      exact ⟨st, hst, _, ⟨hall, rfl⟩, by rw [emit_ok hst]; cases encodeField f st <;> rfl⟩

theorem keysOf_filterMap_sublist {α : Type} {g : α → Option (String × Json)} {name : α → String}
    (h : ∀ {a m}, g a = some m → m.1 = name a) : ∀ l : List α, (keysOf (l.filterMap g)).Sublist (l.map name)
  | [] => .slnil
  | a :: l => by
    rw [List.filterMap_cons]
    split
    · exact (keysOf_filterMap_sublist h l).cons _
    · next m hm =>
      show (m.1 :: keysOf (l.filterMap g)).Sublist (name a :: l.map name)
      exact h hm ▸ (keysOf_filterMap_sublist h l).cons_cons _

theorem normFields_nd {rec : Rec} (hr : RecND rec) (all : List Field) :
    ∀ (fs : List Field) (ms out : List (String × Json)), normFields rec all fs ms = .ok out →
      (keysOf out).Sublist (fs.map (·.jsonName)) ∧ NDM out := by
  intro fs ms out h
  obtain ⟨hst, rfl⟩ := normFields_iff.mp h
  refine ⟨keysOf_filterMap_sublist emit_key fs, ndm_iff.mpr fun m hm => ?_⟩
  obtain ⟨f, hf, hm⟩ := List.mem_filterMap.mp hm
  obtain ⟨st, hst⟩ := hst f hf
  exact encodeField_nd (fun j e => fieldState_nd hr (e ▸ hst)) (emit_ok hst ▸ hm)

/-- names of the fields of a table that take part in (un)marshalling -/
def tableNames (fs : List Field) : List String := (visible fs).map (·.jsonName)

theorem normStruct_nd {rec : Rec} (hr : RecND rec) (fs : List Field) (j : Json) (out : List (String × Json))
    (h : normStruct rec fs j = .ok out) : (keysOf out).Sublist (tableNames fs) ∧ NDM out := by
  simp only [normStruct, bind_ok] at h
  obtain ⟨ms, _, h⟩ := h
  exact normFields_nd hr _ _ _ _ h

theorem sublist_nodup {α : Type} {a b : List α} (h : a.Sublist b) (hb : b.Nodup) : a.Nodup := hb.sublist h

/-! ### parts of a concatenated kind -/

/-- what a part may emit: statically known member names, and/or any `x-` name -/
structure PartDesc where
  names : List String
  ext : Bool

def claims (d : PartDesc) (k : String) : Prop := k ∈ d.names ∨ (d.ext = true ∧ isExtKey k = true)

/-- `out` conforms to `d`: no name twice, every name claimed by `d`, no duplicate member below -/
structure Conf (d : PartDesc) (out : List (String × Json)) : Prop where
  nodup : (keysOf out).Nodup
  claimed : ∀ m ∈ out, claims d m.1
  nd : NDM out

/-- static names pairwise distinct across all parts, none looks like an extension, at most one extensions part -/
def partsOK (ds : List PartDesc) : Bool :=
  decide (ds.flatMap (·.names)).Nodup && (ds.flatMap (·.names)).all (fun n => !isExtKey n) &&
    decide ((ds.filter (·.ext)).length ≤ 1)

inductive ConfAll : List PartDesc → List (List (String × Json)) → Prop
  | nil : ConfAll [] []
  | cons {d ds p ps} : Conf d p → ConfAll ds ps → ConfAll (d :: ds) (p :: ps)

theorem confAll_claims {ds : List PartDesc} {ps : List (List (String × Json))} (h : ConfAll ds ps) :
    ∀ m ∈ ps.flatten, ∃ d ∈ ds, claims d m.1 := by
  induction h with
  | nil => nofun
  | @cons d ds p ps hc _ ih =>
    intro m hm
    rcases List.mem_append.mp (List.flatten_cons ▸ hm) with hm | hm
    · exact ⟨d, List.mem_cons_self, hc.claimed m hm⟩
    · obtain ⟨d', hd', h'⟩ := ih m hm
      exact ⟨d', List.mem_cons_of_mem _ hd', h'⟩

theorem partsOK_tail {d : PartDesc} {ds : List PartDesc} (h : partsOK (d :: ds) = true) : partsOK ds = true := by
  simp only [partsOK, Bool.and_eq_true, decide_eq_true_eq, List.flatMap_cons, List.all_append] at h ⊢
  obtain ⟨⟨h1, h2⟩, h3⟩ := h
  refine ⟨⟨(List.nodup_append.mp h1).2.1, h2.2⟩, ?_⟩
  simp only [List.filter_cons] at h3
  split at h3
  · simp only [List.length_cons] at h3; omega
  · exact h3

theorem partsOK_exclusive {d : PartDesc} {ds : List PartDesc} (hok : partsOK (d :: ds) = true) {k : String}
    (h1 : claims d k) : ¬ ∃ d' ∈ ds, claims d' k := by
  simp only [partsOK, Bool.and_eq_true, decide_eq_true_eq, List.flatMap_cons, List.all_append] at hok
  obtain ⟨⟨hnd, hx1, hx2⟩, hlen⟩ := hok
  have notExt : ∀ {l : List String}, l.all (fun n => !isExtKey n) = true → k ∈ l → isExtKey k = true → False :=
    fun hl hk he => by simpa [he] using List.all_eq_true.mp hl k hk
  rintro ⟨d', hd', h2⟩
  have hk' : ∀ {d'' : PartDesc}, d'' ∈ ds → k ∈ d''.names → k ∈ ds.flatMap (·.names) :=
    fun hd hk => List.mem_flatMap.mpr ⟨_, hd, hk⟩
  rcases h1 with h1 | ⟨e1, x1⟩ <;> rcases h2 with h2 | ⟨e2, x2⟩
  · exact (List.nodup_append.mp hnd).2.2 k h1 k (hk' hd' h2) rfl
  · exact notExt hx1 h1 x2
  · exact notExt hx2 (hk' hd' h2) x1
  · simp only [List.filter_cons, e1, if_true, List.length_cons] at hlen
    have : 0 < (ds.filter (·.ext)).length := List.length_pos_of_mem (List.mem_filter.mpr ⟨hd', e2⟩)
    omega

/-- **the concatenation of conforming parts has no duplicate member** -/
theorem confAll_nodup {ds : List PartDesc} {ps : List (List (String × Json))} (h : ConfAll ds ps)
    (hok : partsOK ds = true) : (keysOf ps.flatten).Nodup := by
  induction h with
  | nil => exact List.nodup_nil
  | @cons d ds p ps hc hrest ih =>
    rw [List.flatten_cons]
    exact nodup_keysOf_append hc.nodup (ih (partsOK_tail hok)) fun m hm m' hm' e =>
      partsOK_exclusive hok (hc.claimed m hm) (e ▸ confAll_claims hrest m' hm')

theorem concatMembers_eq (ps : List (List (String × Json))) : concatMembers ps = .obj ps.flatten := by
  simp only [concatMembers, concatJSON, List.flatMap_map, List.flatMap_id']

theorem concatMembers_pair (a b : List (String × Json)) : concatMembers [a, b] = .obj (a ++ b) := by
  simp [concatMembers_eq]

theorem confAll_nd {ds : List PartDesc} {ps : List (List (String × Json))} (h : ConfAll ds ps)
    (hok : partsOK ds = true) : ND (.obj ps.flatten) := by
  refine nd_obj (confAll_nodup h hok) (ndm_iff.mpr fun m hm => ?_)
  induction h with
  | nil => cases hm
  | cons hc _ ih =>
    rcases List.mem_append.mp (List.flatten_cons ▸ hm) with hm | hm
    · exact ndm_iff.mp hc.nd m hm
    · exact ih (partsOK_tail hok) hm

/-! ### the parts -/

/-- every generated struct table has pairwise distinct member names -/
def tablesNodup (structs : List (String × List Field)) : Bool :=
  structs.all fun e => decide (tableNames e.2).Nodup

theorem lookupStruct_mem (structs : List (String × List Field)) (n : String) :
    lookupStruct structs n = [] ∨ ∃ e ∈ structs, lookupStruct structs n = e.2 := by
  unfold lookupStruct
  cases hf : structs.find? (·.1 == n) with
  | none => exact .inl rfl
  | some e => exact .inr ⟨e, List.mem_of_find?_eq_some hf, rfl⟩

theorem lookupStruct_nodup {structs : List (String × List Field)} (h : tablesNodup structs = true) (n : String) :
    (tableNames (lookupStruct structs n)).Nodup := by
  rcases lookupStruct_mem structs n with h' | ⟨e, he, h'⟩ <;> rw [h']
  · exact List.nodup_nil
  · simpa using List.all_eq_true.mp h e he

theorem tableOf_names (n : String) : (tableOf n).map (·.jsonName) = tableNames (lookupStruct Gen.structs n) := rfl

theorem setOmitEmpty_names (n : String) (fs : List Field) :
    (setOmitEmpty n fs).map (·.jsonName) = fs.map (·.jsonName) := by
  simp only [setOmitEmpty, List.map_map]
  exact List.map_congr_left fun f _ => by simp only [Function.comp]; split <;> rfl

theorem Conf.filter {d : PartDesc} {out : List (String × Json)} (h : Conf d out) (p : String × Json → Bool) :
    Conf d (out.filter p) :=
  ⟨keysOf_filter_nodup p h.nodup, fun m hm => h.claimed m (List.mem_filter.mp hm).1, ndm_filter p h.nd⟩

theorem genericMap_goAny {j : Json} {d : List (String × Json)} (h : genericMap j = .ok d) :
    KeysSorted d ∧ GoAnyM d := by
  cases j <;> simp only [genericMap, pure_ok, goError_ok] at h
  · subst h; exact ⟨keysSorted_nil, trivial⟩
  · exact normAnyMembers_goAny h

theorem genericMap_nd {j : Json} {d : List (String × Json)} (h : genericMap j = .ok d) : KeysSorted d ∧ NDM d :=
  have ⟨h1, h2⟩ := genericMap_goAny h
  ⟨h1, ndm_iff.mpr fun m hm => nd_of_goAny _ (goAnyM_iff.mp h2 m hm)⟩

theorem normExtensions_conf {j : Json} {out : List (String × Json)} (h : normExtensions j = .ok out) :
    Conf ⟨[], true⟩ out := by
  simp only [normExtensions, bind_ok, pure_ok] at h
  obtain ⟨d, hd, rfl⟩ := h
  have ⟨h1, h2⟩ := genericMap_nd hd
  exact ⟨keysOf_filter_nodup _ (keysSorted_nodup h1), fun _ hm => .inr ⟨rfl, (List.mem_filter.mp hm).2⟩,
    ndm_filter _ h2⟩

theorem refOfMap_shape {strict : Bool} {d out : List (String × Json)} (h : refOfMap strict d = .ok out) :
    out = [] ∨ ∃ t, out = [("$ref", .str t)] := by
  unfold refOfMap at h
  repeat' split at h
  all_goals simp only [pure_ok, goError_ok, outOfModel_ok] at h
  all_goals simp [← h]

theorem schemaURLOfMap_shape {d out : List (String × Json)} (h : schemaURLOfMap d = .ok out) :
    out = [] ∨ ∃ t, out = [("$schema", .str t)] := by
  unfold schemaURLOfMap at h
  repeat' split at h
  all_goals simp only [pure_ok, outOfModel_ok] at h
  all_goals simp [← h]

theorem conf_small {name : String} {out : List (String × Json)} (h : out = [] ∨ ∃ t, out = [(name, .str t)]) :
    Conf ⟨[name], false⟩ out := by
  rcases h with rfl | ⟨t, rfl⟩
  · exact ⟨List.nodup_nil, nofun, trivial⟩
  · exact ⟨by simp [keysOf], fun m hm => .inl (by simp_all), trivial, trivial⟩

theorem normRefable_conf {j : Json} {out : List (String × Json)} (h : normRefable j = .ok out) :
    Conf ⟨["$ref"], false⟩ out := by
  simp only [normRefable, bind_ok] at h
  obtain ⟨d, _, h⟩ := h
  exact conf_small (refOfMap_shape h)

theorem normFields_conf {rec : Rec} (hr : RecND rec) {all fs : List Field} {names : List String}
    (hsub : (fs.map (·.jsonName)).Sublist names) (hn : names.Nodup)
    {ms out : List (String × Json)} (h : normFields rec all fs ms = .ok out) : Conf ⟨names, false⟩ out :=
  have ⟨h1, h2⟩ := normFields_nd hr all fs ms out h
  ⟨hn.sublist (h1.trans hsub), fun _ hm => .inl ((h1.trans hsub).subset (mem_keysOf hm)), h2⟩

theorem normOperationProps_conf {rec : Rec} (hr : RecND rec)
    (hn : (tableNames (lookupStruct Gen.structs "OperationProps")).Nodup) {j : Json}
    {out : List (String × Json)} (h : normOperationProps rec j = .ok out) :
    Conf ⟨tableNames (lookupStruct Gen.structs "OperationProps"), false⟩ out := by
  rw [← tableOf_names] at hn ⊢
  unfold normOperationProps at h
  -- the table stays a variable: `find?` on the generated literal would be evaluated by `simp`
  generalize tableOf "OperationProps" = props at h hn ⊢
  -- one bind at a time: a `simp only [bind_ok]` over the join point of this `do` block is slow for the kernel to check
  obtain ⟨ms, -, h⟩ := bind_ok.mp h
  obtain ⟨others, hothers, h⟩ := bind_ok.mp h
  have co := normFields_conf hr (List.filter_sublist.map _) hn hothers
  split at h <;> simp only [bind_ok, pure_ok] at h
  · next f hf =>
    obtain ⟨st, hst, _, rfl, rfl⟩ := h
    cases st with
    | none => exact co
    | some v =>
      -- `security` is a table name that `others` cannot hold
      have hname : f.jsonName = "security" := by simpa using List.find?_some hf
      have hnot : "security" ∉ keysOf others := fun hk => by
        obtain ⟨g, hg, e⟩ := List.mem_map.mp ((normFields_nd hr _ _ _ _ hothers).1.subset hk)
        simp [e] at hg
      refine ⟨List.nodup_cons.mpr ⟨hnot, co.nodup⟩, fun m hm => ?_, fieldState_nd hr hst, co.nd⟩
      rcases List.mem_cons.mp hm with rfl | hm
      · exact .inl (List.mem_map.mpr ⟨f, List.mem_of_find?_eq_some hf, hname⟩)
      · exact co.claimed m hm
  · obtain ⟨_, rfl, rfl⟩ := h; exact co

/-- what a named part of a regular kind may emit -/
def descOf (p : String) : PartDesc :=
  if p == "VendorExtensible" then ⟨[], true⟩
  else if p == "Refable" then ⟨["$ref"], false⟩
  else ⟨tableNames (lookupStruct Gen.structs p), false⟩

-- stated once: left to the unifier, `descOf "…"` is evaluated by comparing the string literals byte by byte at every use
theorem descOf_extensions : descOf "VendorExtensible" = ⟨[], true⟩ := by simp [descOf]

theorem descOf_refable : descOf "Refable" = ⟨["$ref"], false⟩ := by simp [descOf]

theorem descOf_struct {p : String} (h1 : p ≠ "VendorExtensible") (h2 : p ≠ "Refable") :
    descOf p = ⟨tableNames (lookupStruct Gen.structs p), false⟩ := by simp [descOf, h1, h2]

theorem normPart_conf {rec : Rec} (hr : RecND rec) (hT : tablesNodup Gen.structs = true) (p : String) {j : Json}
    {out : List (String × Json)} (h : normPart rec p j = .ok out) : Conf (descOf p) out := by
  revert h
  refine normPart_cases (P := fun a _ => a = .ok out → Conf (descOf p) out) (rec' := rec) (j' := j) p
    (fun e => ?_) (fun e => ?_) (fun e => ?_) (fun h1 h2 => ?_) <;> intro h
  · rw [e, descOf_extensions]; exact normExtensions_conf h
  · rw [e, descOf_refable]; exact normRefable_conf h
  · subst e; rw [descOf_struct (by simp) (by simp)]; exact normOperationProps_conf hr (lookupStruct_nodup hT _) h
  · rw [descOf_struct h1 h2]
    simp only [normStruct, bind_ok] at h
    obtain ⟨ms, _, h⟩ := h
    exact normFields_conf hr (.refl _) (lookupStruct_nodup hT _) h

theorem normParts_conf {rec : Rec} (hr : RecND rec) (hT : tablesNodup Gen.structs = true) (j : Json) :
    ∀ (ps : List String) (outs : List (List (String × Json))), normParts rec j ps = .ok outs →
      ConfAll (ps.map descOf) outs := by
  intro ps
  induction ps with
  | nil => intro outs h; cases pure_ok.mp h; exact .nil
  | cons p rest ih =>
    intro outs h
    simp only [normParts, bind_ok, pure_ok] at h
    obtain ⟨b, hb, bs, hbs, rfl⟩ := h
    exact .cons (normPart_conf hr hT p hb) (ih bs hbs)

/-! ### the kinds: what each returns is a concatenation of conforming parts -/

/-- the parts of a regular kind that are both decoded and encoded -/
def liveParts (ki : KindInfo) : List String := ki.marshalParts.filter fun p => ki.unmarshalTargets.contains p

/-- side condition on the GENERATED tables: for every kind, the member names of its live parts are pairwise
distinct, none looks like an extension, and there is at most one extensions part -/
def kindsPartsOK (kinds : List KindInfo) : Bool := kinds.all fun ki => partsOK ((liveParts ki).map descOf)

theorem normConcatKind_parts {rec : Rec} (hr : RecND rec) (hT : tablesNodup Gen.structs = true) (ki : KindInfo)
    {j j' : Json} (h : normConcatKind rec ki j = .ok j') :
    ∃ bs, j' = .obj bs.flatten ∧ ConfAll ((liveParts ki).map descOf) bs := by
  simp only [normConcatKind, bind_ok, pure_ok, concatMembers_eq] at h
  obtain ⟨_, _, bs, hbs, _, _, rfl⟩ := h
  exact ⟨bs, rfl, normParts_conf hr hT j _ bs hbs⟩

/-- static descriptors of the parts of the hand-written kinds -/
def schemaDescs : List PartDesc :=
  [⟨tableNames (lookupStruct Gen.structs "SchemaProps"), false⟩, ⟨[], true⟩, ⟨["$ref"], false⟩, ⟨["$schema"], false⟩,
   ⟨tableNames (lookupStruct Gen.structs "SwaggerSchemaProps"), false⟩]
def responseDescs : List PartDesc :=
  [⟨tableNames (lookupStruct Gen.structs "ResponseProps"), false⟩, ⟨["$ref"], false⟩, ⟨[], true⟩]
def securitySchemeDescs : List PartDesc :=
  [⟨tableNames (lookupStruct Gen.structs "SecuritySchemeProps"), false⟩, ⟨[], true⟩]

def customKindsOK : Bool := partsOK schemaDescs && partsOK responseDescs && partsOK securitySchemeDescs

theorem schemaKnown_eq : schemaKnownNames =
    tableNames (lookupStruct Gen.structs "SchemaProps") ++ tableNames (lookupStruct Gen.structs "SwaggerSchemaProps") := rfl

/-- a member name the schema decoder keeps among the extra properties or the extensions -/
def schemaExtra (k : String) : Bool := !(k == "$ref" || k == "$schema" || schemaKnownNames.contains k)

/-- what one of the five described parts of a schema claims is a keyword, `$ref`, `$schema` or an extension -/
theorem schemaDescs_unclaimed {k : String} (he : schemaExtra k = true) (hx : isExtKey k = false) :
    ¬ ∃ d ∈ schemaDescs, claims d k := by
  rintro ⟨d, hd, hc | ⟨-, hx'⟩⟩
  · simp only [schemaExtra, schemaKnown_eq, Bool.not_eq_true', Bool.or_eq_false_iff, beq_eq_false_iff_ne, ne_eq,
      List.contains_eq_mem, decide_eq_false_iff_not, List.mem_append, not_or] at he
    simp only [schemaDescs, List.mem_cons, List.not_mem_nil, or_false] at hd
    -- the two tables stay variables: unifying `d.names` with a table would evaluate the lookup in the generated literal
    generalize tableNames (lookupStruct Gen.structs "SchemaProps") = A,
      tableNames (lookupStruct Gen.structs "SwaggerSchemaProps") = B at hd he
    rcases hd with rfl | rfl | rfl | rfl | rfl
    · exact he.2.1 hc
    · cases hc
    · exact he.1.1 (List.mem_singleton.mp hc)
    · exact he.1.2 (List.mem_singleton.mp hc)
    · exact he.2.2 hc
  · rw [hx] at hx'; cases hx'

/-- a schema is its five described parts, then the extra properties, which no descriptor claims -/
theorem normSchema_parts {rec : Rec} (hr : RecND rec) (hT : tablesNodup Gen.structs = true) {all : List Field}
    {ms b1 b5 d b3 b4 : List (String × Json)} (hb1 : normFields rec all (tableOf "SchemaProps") ms = .ok b1)
    (hb5 : normFields rec all (tableOf "SwaggerSchemaProps") ms = .ok b5) (hd : KeysSorted d ∧ NDM d)
    (hb3 : refOfMap false d = .ok b3) (hb4 : schemaURLOfMap d = .ok b4) :
    ConfAll schemaDescs [b1, d.filter fun m => isExtKey m.1 && schemaExtra m.1, b3, b4, b5] :=
  .cons (normFields_conf hr (.refl _) (lookupStruct_nodup hT _) hb1) <|
    .cons ⟨keysOf_filter_nodup _ (keysSorted_nodup hd.1),
      fun _ hm => .inr ⟨rfl, (Bool.and_eq_true_iff.mp (List.mem_filter.mp hm).2).1⟩, ndm_filter _ hd.2⟩ <|
    .cons (conf_small (refOfMap_shape hb3)) <| .cons (conf_small (schemaURLOfMap_shape hb4)) <|
    .cons (normFields_conf hr (.refl _) (lookupStruct_nodup hT _) hb5) .nil

theorem nd_append_unclaimed {ds : List PartDesc} {bs : List (List (String × Json))} {b6 : List (String × Json)}
    (hc : ConfAll ds bs) (hk : partsOK ds = true) (h6 : (keysOf b6).Nodup) (n6 : NDM b6)
    (hun : ∀ m ∈ b6, ¬ ∃ d ∈ ds, claims d m.1) : ND (.obj (bs ++ [b6]).flatten) := by
  have ⟨h1, h2⟩ := confAll_nd hc hk
  rw [List.flatten_append, List.flatten_singleton]
  exact nd_obj (nodup_keysOf_append h1 h6 fun m hm m' hm' e => hun m' hm' (e ▸ confAll_claims hc m hm))
    (ndm_append h2 n6)

theorem normSchema_nd {rec : Rec} (hr : RecND rec) (hT : tablesNodup Gen.structs = true)
    (hk : partsOK schemaDescs = true) {j j' : Json} (h : normSchema rec j = .ok j') : ND j' := by
  cases j with
  | null => cases pure_ok.mp h; exact nd_obj List.nodup_nil trivial
  | obj ms =>
    simp only [normSchema, bind_ok, pure_ok, concatMembers_eq, List.filter_filter, ← schemaExtra.eq_1] at h
    obtain ⟨b1, hb1, b5, hb5, d, hd, b3, hb3, b4, hb4, rfl⟩ := h
    have hg := genericMap_nd (j := .obj ms) hd
    exact nd_append_unclaimed (normSchema_parts hr hT hb1 hb5 hg hb3 hb4) hk
      (keysOf_filter_nodup _ (keysSorted_nodup hg.1)) (ndm_filter _ hg.2) fun m hm =>
        have ⟨h1, h2⟩ := Bool.and_eq_true_iff.mp (List.mem_filter.mp hm).2
        schemaDescs_unclaimed h2 (by simpa using h1)
  | _ => cases h

theorem setOmitEmpty_sublist (n T : String) :
    ((setOmitEmpty n (tableOf T)).map (·.jsonName)).Sublist (tableNames (lookupStruct Gen.structs T)) := by
  rw [setOmitEmpty_names]; exact .refl _

theorem normResponse_parts {rec : Rec} (hr : RecND rec) (hT : tablesNodup Gen.structs = true) {j j' : Json}
    (h : normResponse rec j = .ok j') : ∃ bs, j' = .obj bs.flatten ∧ ConfAll responseDescs bs := by
  simp only [normResponse, bind_ok, pure_ok, ite_ok, concatMembers_eq] at h
  obtain ⟨ms, _, full, hfull, b2, hb2, b3, hb3, h⟩ := h
  have hn := lookupStruct_nodup hT "ResponseProps"
  have tail := ConfAll.cons (normRefable_conf hb2) (.cons (normExtensions_conf hb3) .nil)
  obtain ⟨_, lit, hlit, rfl⟩ | ⟨_, rfl⟩ := h
  · exact ⟨_, rfl, .cons ((normFields_conf hr (setOmitEmpty_sublist ..) hn hlit).filter _) tail⟩
  · exact ⟨_, rfl, .cons (normFields_conf hr (.refl _) hn hfull) tail⟩

theorem normSecurityScheme_parts {rec : Rec} (hr : RecND rec) (hT : tablesNodup Gen.structs = true) {j j' : Json}
    (h : normSecurityScheme rec j = .ok j') : ∃ bs, j' = .obj bs.flatten ∧ ConfAll securitySchemeDescs bs := by
  simp only [normSecurityScheme, bind_ok, pure_ok, ite_ok, concatMembers_eq] at h
  obtain ⟨ms, _, full, hfull, b2, hb2, h⟩ := h
  have hn := lookupStruct_nodup hT "SecuritySchemeProps"
  have tail := ConfAll.cons (normExtensions_conf hb2) .nil
  obtain ⟨_, rfl⟩ | ⟨_, lit, hlit, rfl⟩ := h
  · exact ⟨_, rfl, .cons (normFields_conf hr (.refl _) hn hfull) tail⟩
  · exact ⟨_, rfl, .cons (normFields_conf hr (setOmitEmpty_sublist ..) hn hlit) tail⟩

/-! ### Responses, Paths -/

/-- what the first pass leaves in the `ResponsesProps` part: a decoded response under `default` or a decimal numeral -/
def RespMember (rec : Rec) (m : String × Json) : Prop :=
  (∃ v, rec (.kind "response") v = .ok m.2) ∧ (m.1 = "default" ∨ ∃ n, m.1 = itoa n ∧ int64Range n)

theorem statusEntries_img {rec : Rec} (ms : List (String × Json)) : ∀ (es : List (Int × Json)),
    statusEntries rec ms = .ok es → ∀ e ∈ es, int64Range e.1 ∧ ∃ v, rec (.kind "response") v = .ok e.2 := by
  fun_induction statusEntries rec ms with
  | case1 => intro es h; cases pure_ok.mp h; nofun
  | case2 _ _ _ _ ih => exact ih
  | case3 k v rest _ ih =>
    intro es h
    simp only [bind_ok] at h
    obtain ⟨r, hr', more, hmore, h⟩ := h
    split at h <;> cases pure_ok.mp h
    · next n hn => exact List.forall_mem_cons.mpr ⟨⟨(atoi_some hn).1, v, hr'⟩, ih more hmore⟩
    · exact ih _ hmore

theorem normResponsesProps_img {rec : Rec} {j : Json} {b1 : List (String × Json)}
    (h : normResponsesProps rec j = .ok b1) : KeysSorted b1 ∧ ∀ m ∈ b1, RespMember rec m := by
  cases j <;> simp only [normResponsesProps, bind_ok, pure_ok, goError_ok, ite_ok, outOfModel_ok] at h
  · subst h; exact ⟨keysSorted_nil, nofun⟩
  · obtain ⟨dflt, hdflt, codes, hcodes, ⟨_, ⟨⟩⟩ | ⟨_, rfl⟩⟩ := h
    refine ⟨toGoMap_sorted _, fun m hm => ?_⟩
    rcases List.mem_append.mp (toGoMap_members _ m hm) with h1 | h1
    · unfold defaultPart at hdflt
      split at hdflt <;> simp only [bind_ok, pure_ok] at hdflt
      · next v _ =>
        obtain ⟨r, hr', rfl⟩ := hdflt
        cases List.mem_singleton.mp h1
        exact ⟨⟨v, hr'⟩, .inl rfl⟩
      · subst hdflt; cases h1
    · obtain ⟨e, he, rfl⟩ := List.mem_map.mp h1
      have ⟨i1, i2⟩ := statusEntries_img _ codes hcodes e he
      exact ⟨i2, .inr ⟨e.1, rfl, i1⟩⟩

theorem RespMember.not_ext {rec : Rec} {m : String × Json} (h : RespMember rec m) : isExtKey m.1 = false := by
  rcases h.2 with e | ⟨n, e, _⟩ <;> rw [e]
  · rfl
  · exact isExtKey_itoa n

theorem normResponses_nd {rec : Rec} (hr : RecND rec) {j j' : Json} (h : normResponses rec j = .ok j') : ND j' := by
  simp only [normResponses, bind_ok, pure_ok, concatMembers_pair] at h
  obtain ⟨b1, hb1, b2, hb2, rfl⟩ := h
  have ⟨h1, h2⟩ := normResponsesProps_img hb1
  have c2 := normExtensions_conf hb2
  refine nd_obj (nodup_keysOf_append (keysSorted_nodup h1) c2.nodup fun m hm m' hm' e => ?_)
    (ndm_append (ndm_iff.mpr fun m hm => let ⟨⟨v, hv⟩, _⟩ := h2 m hm; hr _ v _ hv) c2.nd)
  have : isExtKey m'.1 = true := (c2.claimed m' hm').elim (nomatch ·) (·.2)
  rw [← e, (h2 m hm).not_ext] at this; cases this

theorem normPaths_nd {rec : Rec} (hr : RecND rec) {j j' : Json} (h : normPaths rec j = .ok j') : ND j' := by
  cases j <;> simp only [normPaths, bind_ok, pure_ok, goError_ok, concatMembers_pair] at h
  · subst h; exact nd_obj List.nodup_nil trivial
  · obtain ⟨exts, hexts, pths, hpths, rfl⟩ := h
    have ⟨e1, e2⟩ := mapMembersR_nd (fun _ _ => normAny_nd) hexts
    have ⟨p1, p2⟩ := mapMembersR_nd (hr _) hpths
    refine nd_obj (nodup_keysOf_append (keysSorted_nodup e1) (keysSorted_nodup p1) fun m hm m' hm' e => ?_)
      (ndm_append e2 p2)
    have := startsWithSlash_not_ext _ (mapMembersR_filter_keys hpths m' hm')
    rw [← e, mapMembersR_filter_keys hexts m hm] at this; cases this

/-! ### the union types, the dispatcher, the recursion -/

theorem normNamed_nd {rec : Rec} (hr : RecND rec) (n : String) {j j' : Json} (h : normNamed rec n j = .ok j') :
    ND j' := by
  revert h
  refine normNamed_cases (P := fun a _ => a = .ok j' → ND j') (rec' := rec) (j' := j) n ?_ ?_ ?_ ?_ ?_ nofun <;> intro h
  · cases j <;> simp only [normStringOrArray, bind_ok, pure_ok, goError_ok] at h
    · subst h; trivial
    · subst h; trivial
    · obtain ⟨ys, hys, h⟩ := h
      have := mapR_nd (fun _ _ => strElem_nd) hys
      split at h <;> cases pure_ok.mp h
      · exact this.1
      · exact this
  · unfold normSchemaOrBool at h
    split at h
    · exact hr _ _ _ h
    all_goals cases pure_ok.mp h; trivial
  · unfold normSchemaOrArray at h
    split at h <;> try simp only [bind_ok, pure_ok] at h
    · exact hr _ _ _ h
    · obtain ⟨ys, hys, rfl⟩ := h; exact mapR_nd (hr _) hys
    · subst h; trivial
  · unfold normSchemaOrStringArray at h
    split at h <;> try simp only [bind_ok, pure_ok] at h
    · exact hr _ _ _ h
    · obtain ⟨ys, hys, rfl⟩ := h
      split
      · trivial
      · exact mapR_nd (fun _ _ => strElem_nd) hys
    · subst h; trivial
  · unfold normSchemaProperties at h
    split at h <;> simp only [bind_ok, pure_ok, goError_ok] at h
    · obtain ⟨ys, hys, rfl⟩ := h
      have ⟨h1, h2⟩ := mapMembersR_nd (hr _) hys
      have hp := sortBy_perm lessItem ys
      exact nd_obj (perm_nodup_keys hp (keysSorted_nodup h1)) (perm_ndm hp h2)
    · subst h; trivial

/-- everything the argument needs from the GENERATED tables -/
structure TablesOK : Prop where
  tables : tablesNodup Gen.structs = true
  kinds : kindsPartsOK Gen.kinds = true
  custom : customKindsOK = true

theorem normKind_nd {rec : Rec} (hr : RecND rec) (ok : TablesOK) (k : String) {j j' : Json}
    (h : normKind rec k j = .ok j') : ND j' := by
  have hc := ok.custom
  simp only [customKindsOK, Bool.and_eq_true] at hc
  revert h
  refine normKind_cases (P := fun a _ => a = .ok j' → ND j') (rec' := rec) (j' := j) k ?_ ?_ ?_ ?_ ?_ nofun
    (fun ki _ _ => ?_) (fun ki _ hki _ => ?_) <;> intro h
  · exact normSchema_nd hr ok.tables hc.1.1 h
  · obtain ⟨bs, rfl, c⟩ := normResponse_parts hr ok.tables h; exact confAll_nd c hc.1.2
  · exact normResponses_nd hr h
  · exact normPaths_nd hr h
  · obtain ⟨bs, rfl, c⟩ := normSecurityScheme_parts hr ok.tables h; exact confAll_nd c hc.2
  · -- a kind without a custom codec
    simp only [bind_ok, pure_ok] at h
    obtain ⟨ms, hms, rfl⟩ := h
    have ⟨h1, h2⟩ := normStruct_nd hr _ j ms hms
    exact nd_obj ((lookupStruct_nodup ok.tables _).sublist h1) h2
  · obtain ⟨bs, rfl, c⟩ := normConcatKind_parts hr ok.tables ki h
    exact confAll_nd c (List.all_eq_true.mp ok.kinds ki (List.mem_of_find?_eq_some hki))

/-- the recursion closes: at every fuel, the codec only returns values without duplicate members -/
theorem normF_nd (ok : TablesOK) : ∀ fuel, RecND (normF fuel) := by
  -- by `induction`: with one equation-compiler clause per `Target` the elaborator compares the kind names of `normKind` while it matches
  intro fuel
  induction fuel with
  | zero => exact fun _ _ _ h => nomatch h
  | succ n ih =>
    rintro (k | nm) j j' h
    · exact normKind_nd ih ok k h
    · exact normNamed_nd ih nm h

/-- **C06 for whole documents.** Whatever decoding `j` as kind `k` and encoding it again returns has no object,
at any depth, with two members of the same name. -/
theorem norm_nd (ok : TablesOK) (k : String) (j j' : Json) (h : norm k j = .ok j') : ND j' :=
  normF_nd ok _ (.kind k) j j' h

end SpecModel.Codec
